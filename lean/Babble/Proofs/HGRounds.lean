import Babble.Proofs.HGBlocks
/-! # Round tables of the operational model: rounds are created contiguously, queued once, and
    processed in increasing order — hence the round received of delivered blocks strictly increases.
    For a node started from genesis (no fast-sync lower bound). -/
namespace Babble.HG

theorem setRound_pending (s : St) (r : Int) (ri : RoundInfo) : (s.setRound r ri).pending = s.pending := rfl
theorem update_pending (s : St) (id : String) (f : Ev → Ev) : (s.update id f).pending = s.pending := rfl

def evRounds (s : St) : List (Option Int) := s.events.map (·.round)

def Latched (s : St) (r : Int) : Prop := ∃ ri, s.getRound r = some ri ∧ ri.decided = true

def St.agenda (s : St) : List Int := s.blocks.map (·.rr) ++ s.pending.map (·.1)

/-- Processing the head of the queue moves it to the delivered side or drops it, so the agenda only
    loses entries and the blocks stay sorted by round received. -/
structure RInv (s : St) : Prop where
  lb : s.lowerBound = none
  l0 : -1 ≤ s.lastRound
  cont : ∀ k, (s.getRound k).isSome ↔ (0 ≤ k ∧ k ≤ s.lastRound)
  evr : ∀ r, some r ∈ evRounds s → 0 ≤ r ∧ r ≤ s.lastRound
  sorted : s.agenda.Pairwise (· < ·)
  bound : ∀ k ∈ s.agenda, 0 ≤ k ∧ k ≤ s.lastRound
  queued : ∀ r ri, s.getRound r = some ri → ri.decided = true ∨ ∃ d, (r, d) ∈ s.pending
  flagLatched : ∀ r, (r, true) ∈ s.pending → Latched s r

theorem RInv.pendBound {s : St} (hI : RInv s) {p : Int × Bool} (hp : p ∈ s.pending) : 0 ≤ p.1 ∧ p.1 ≤ s.lastRound :=
  hI.bound _ (List.mem_append_right _ (List.mem_map_of_mem hp))

structure Benign (s s' : St) : Prop where
  lb : s'.lowerBound = s.lowerBound
  lr : s'.lastRound = s.lastRound
  pend : s'.pending = s.pending
  blocks : s'.blocks = s.blocks
  evr : ∀ r, some r ∈ evRounds s' → some r ∈ evRounds s ∨ (0 ≤ r ∧ r ≤ s.lastRound)
  some_iff : ∀ k, (s'.getRound k).isSome ↔ (s.getRound k).isSome
  mono : ∀ k ri ri', s.getRound k = some ri → s'.getRound k = some ri' → ri.decided = true → ri'.decided = true

theorem Benign.of_fields {s s' : St} (h1 : s'.lowerBound = s.lowerBound) (h2 : s'.lastRound = s.lastRound)
    (h3 : s'.pending = s.pending) (h4 : s'.blocks = s.blocks)
    (h5 : ∀ r, some r ∈ evRounds s' → some r ∈ evRounds s ∨ (0 ≤ r ∧ r ≤ s.lastRound))
    (h6 : s'.rounds = s.rounds) : Benign s s' where
  lb := h1
  lr := h2
  pend := h3
  blocks := h4
  evr := h5
  some_iff := fun k => by rw [getRound_of_rounds h6]
  mono := fun k ri ri' ha hb hd => by
    rw [getRound_of_rounds h6, ha] at hb; injection hb with hb; rw [← hb]; exact hd

theorem Benign.latched {s s' : St} {r : Int} (h : Benign s s') (hl : Latched s r) : Latched s' r := by
  obtain ⟨ri, hri, hd⟩ := hl
  obtain ⟨ri', hri'⟩ := Option.isSome_iff_exists.mp ((h.some_iff r).mpr (by rw [hri]; rfl))
  exact ⟨ri', hri', h.mono r ri ri' hri hri' hd⟩

theorem Benign.inv {s s' : St} (h : Benign s s') (hI : RInv s) : RInv s' where
  lb := by rw [h.lb]; exact hI.lb
  l0 := by rw [h.lr]; exact hI.l0
  cont := fun k => by rw [h.some_iff k, h.lr]; exact hI.cont k
  evr := fun r hr => by
    rw [h.lr]
    rcases h.evr r hr with h1 | h1
    · exact hI.evr r h1
    · exact h1
  sorted := by unfold St.agenda; rw [h.pend, h.blocks]; exact hI.sorted
  bound := by unfold St.agenda; rw [h.pend, h.blocks, h.lr]; exact hI.bound
  queued := by
    intro r ri' hr
    have hs : (s.getRound r).isSome := (h.some_iff r).mp (by rw [hr]; rfl)
    obtain ⟨ri, hri⟩ := Option.isSome_iff_exists.mp hs
    rcases hI.queued r ri hri with hd | hp
    · left; exact h.mono r ri ri' hri hr hd
    · right; rw [h.pend]; exact hp
  flagLatched := fun r hr => h.latched (hI.flagLatched r (by rw [h.pend] at hr; exact hr))

theorem evRounds_update {P : Int → Prop} {s : St} {id : String} {f : Ev → Ev} {r : Int}
    (h : some r ∈ evRounds (s.update id f)) (hf : ∀ e, (f e).round = e.round ∨ ∃ r, (f e).round = some r ∧ P r) :
    some r ∈ evRounds s ∨ P r := by
  simp only [evRounds, St.update, List.map_map, List.mem_map, Function.comp] at h
  obtain ⟨e, he, hre⟩ := h
  by_cases hid : (e.id == id) = true
  · simp only [hid, if_true] at hre
    rcases hf e with h' | ⟨r', h', hP⟩
    · exact Or.inl (List.mem_map.mpr ⟨e, he, h'.symm.trans hre⟩)
    · rw [h'] at hre; exact Or.inr (Option.some.inj hre ▸ hP)
  · simp only [hid] at hre; exact Or.inl (List.mem_map.mpr ⟨e, he, hre⟩)

theorem Benign.update (s : St) (id : String) (f : Ev → Ev)
    (hf : ∀ e, (f e).round = e.round ∨ ∃ r, (f e).round = some r ∧ 0 ≤ r ∧ r ≤ s.lastRound) :
    Benign s (s.update id f) :=
  .of_fields rfl rfl rfl rfl (fun _ h => evRounds_update h hf) rfl

theorem Benign.setRound (s : St) (r : Int) (ri0 ri : RoundInfo) (h0 : s.getRound r = some ri0)
    (hr : r ≤ s.lastRound) (hd : ri0.decided = true → ri.decided = true) : Benign s (s.setRound r ri) where
  lb := rfl
  lr := lastRound_setRound_le s ri hr
  pend := rfl
  blocks := rfl
  evr := fun _ h => Or.inl h
  some_iff := by
    intro k; rw [getRound_setRound]
    by_cases hk : k = r
    · subst hk; simp [h0]
    · simp [hk]
  mono := by
    intro k a b ha hb hda
    rw [getRound_setRound] at hb
    by_cases hk : k = r
    · subst hk
      simp only [if_true] at hb; injection hb with hb
      rw [h0] at ha; injection ha with ha
      rw [← hb]; exact hd (by rw [ha]; exact hda)
    · simp only [hk, if_false] at hb
      rw [ha] at hb; injection hb with hb; rw [← hb]; exact hda

theorem insert_rinv (s : St) (e : Ev) (he : e.round = none) (hI : RInv s) : RInv (s.insert e) := by
  -- the record put on top carries no round (`he`); the walk and the queueing write none
  have hcons : RInv { s with events := s.stored e :: s.events } :=
    Benign.inv (s := s) (.of_fields rfl rfl rfl rfl (fun r hr => Or.inl <|
      (List.mem_cons.mp hr).resolve_left fun h => nomatch (show some r = e.round from h).trans he) rfl) hI
  exact insert_rel (Pre.imp RInv) (fun s ah _ _ hI => Benign.inv (Benign.update s ah _ fun _ => Or.inl rfl) hI)
    (fun st _ _ _ hI => Benign.inv (s := st) (.of_fields rfl rfl rfl rfl (fun _ h => Or.inl h) rfl) hI) s e
    (fun _ => hcons) hI

theorem roundOf_bound {s : St} (hI : RInv s) (x : String) :
    s.roundOf x = -1 ∨ (0 ≤ s.roundOf x ∧ s.roundOf x ≤ s.lastRound) := by
  unfold St.roundOf
  cases hg : s.get x with
  | none => left; rfl
  | some e =>
    simp only []
    cases hr : e.round with
    | none => left; rfl
    | some r =>
      right
      have : some r ∈ evRounds s := by
        unfold evRounds; exact List.mem_map.mpr ⟨e, get_mem hg, hr⟩
      exact hI.evr r this

theorem parentRound_bound {s : St} (hI : RInv s) (e : Ev) :
    s.parentRound e = -1 ∨ (0 ≤ s.parentRound e ∧ s.parentRound e ≤ s.lastRound) := by
  have h1 := roundOf_bound hI e.sp
  have h2 := roundOf_bound hI e.op
  rw [parentRound_eq]
  split <;> split <;> omega

theorem computeRound_bound {s : St} (hI : RInv s) (e : Ev) :
    0 ≤ s.computeRound e ∧ s.computeRound e ≤ s.lastRound + 1 := by
  have hp := parentRound_bound hI e
  have hl := hI.l0
  have := computeRound_cases s e
  omega

theorem insertSorted_append (l : List (Int × Bool)) (x : Int × Bool) (h : ∀ p ∈ l, p.1 ≤ x.1) :
    insertSorted l x = l ++ [x] := by
  induction l with
  | nil => rfl
  | cons p t ih =>
    have hp : p.1 ≤ x.1 := h p List.mem_cons_self
    simp only [insertSorted, hp, if_true, List.cons_append]
    rw [ih (fun q hq => h q (List.mem_cons_of_mem p hq))]

theorem pending_any {l : List (Int × Bool)} {r : Int} {d : Bool} (h : (r, d) ∈ l) :
    l.any (fun p => p.1 == r) = true := by
  rw [List.any_eq_true]; exact ⟨(r, d), h, by simp⟩

theorem RInv.open_round {s s' : St} {ri : RoundInfo} (hI : RInv s) (hlb : s'.lowerBound = s.lowerBound)
    (hbl : s'.blocks = s.blocks) (hlr : s'.lastRound = s.lastRound + 1)
    (hpend : s'.pending = s.pending ++ [(s.lastRound + 1, false)])
    (hget : ∀ k, s'.getRound k = if k = s.lastRound + 1 then some ri else s.getRound k)
    (hev : ∀ r, some r ∈ evRounds s' → some r ∈ evRounds s ∨ r = s.lastRound + 1) : RInv s' := by
  have hl0 := hI.l0
  have hag : s'.agenda = s.agenda ++ [s.lastRound + 1] := by
    unfold St.agenda; rw [hbl, hpend, List.map_append, List.append_assoc]; rfl
  refine { lb := by rw [hlb]; exact hI.lb, l0 := by omega, cont := fun k => ?_, evr := fun r hr => ?_, sorted := ?_,
           bound := fun k hk => ?_, queued := fun k ri' hk => ?_, flagLatched := fun k hk => ?_ }
  · rw [hget, hlr]
    by_cases hk : k = s.lastRound + 1
    · rw [if_pos hk]; exact ⟨fun _ => by omega, fun _ => rfl⟩
    · rw [if_neg hk, hI.cont k]; omega
  · rw [hlr]
    rcases hev r hr with h | h
    · have := hI.evr r h; omega
    · omega
  · rw [hag, List.pairwise_append]
    exact ⟨hI.sorted, List.pairwise_singleton _ _, fun a ha b hb => by
      rw [List.mem_singleton.mp hb]; have := hI.bound a ha; omega⟩
  · rw [hlr]
    rw [hag] at hk
    rcases List.mem_append.mp hk with h | h
    · have := hI.bound k h; omega
    · rw [List.mem_singleton.mp h]; omega
  · rw [hget] at hk
    by_cases hkr : k = s.lastRound + 1
    · exact Or.inr ⟨false, by rw [hpend, hkr]; simp⟩
    · rw [if_neg hkr] at hk
      exact (hI.queued k ri' hk).imp id fun ⟨d, hp⟩ => ⟨d, by rw [hpend]; exact List.mem_append_left _ hp⟩
  · rw [hpend] at hk
    rcases List.mem_append.mp hk with h | h
    · obtain ⟨ri0, hri0, hd⟩ := hI.flagLatched k h
      have := hI.pendBound h
      exact ⟨ri0, by rw [hget, if_neg (by omega)]; exact hri0, hd⟩
    · cases List.mem_singleton.mp h

theorem assignRound_rinv {s : St} (hI : RInv s) (id : String) (ev : Ev) : RInv (s.assignRound id ev) := by
  have hb := computeRound_bound hI ev
  by_cases hle : s.computeRound ev ≤ s.lastRound
  · -- an existing round: nothing is queued
    obtain ⟨ri0, hri0⟩ := Option.isSome_iff_exists.mp ((hI.cont (s.computeRound ev)).mpr ⟨hb.1, hle⟩)
    have hq : s.queueRound (s.computeRound ev) ((s.getRound (s.computeRound ev)).getD {}) = s := by
      unfold St.queueRound
      rw [hri0]
      rcases hI.queued _ ri0 hri0 with hd | ⟨d, hp⟩
      · simp [hd]
      · simp [pending_any hp]
    unfold St.assignRound
    simp only []
    rw [hq, hri0]
    -- the three writes: the round on the record, the round's info, the witness flag
    refine Benign.inv (Benign.update _ id _ fun _ => Or.inl rfl) (Benign.inv (Benign.setRound _ _ ri0 _ hri0 hle ?_)
      (Benign.inv (Benign.update s id (fun e => { e with round := some (s.computeRound ev) }) fun _ =>
        Or.inr ⟨_, rfl, hb.1, hle⟩) hI))
    rw [addCreated_decided]; exact fun h => h
  · -- a new round: the successor of the last one; it is queued behind everything pending
    have hr : s.computeRound ev = s.lastRound + 1 := by omega
    have hnone : s.getRound (s.lastRound + 1) = none := by
      cases hg : s.getRound (s.lastRound + 1) with
      | none => rfl
      | some ri => have := (hI.cont _).mp (by rw [hg]; rfl); omega
    have hq : s.queueRound (s.lastRound + 1) {} = { s with pending := s.pending ++ [(s.lastRound + 1, false)] } := by
      unfold St.queueRound St.aboveLB
      have hnp : s.pending.any (fun p => p.1 == s.lastRound + 1) = false := by
        rw [Bool.eq_false_iff]
        intro h
        obtain ⟨p, hp, he⟩ := List.any_eq_true.mp h
        have := hI.pendBound hp
        have : p.1 = s.lastRound + 1 := by simpa using he
        omega
      rw [hI.lb, hnp, insertSorted_append _ _ fun p hp => by have := hI.pendBound hp; omega]
      rfl
    unfold St.assignRound
    simp only []
    rw [hr, hnone, Option.getD_none, hq]
    refine hI.open_round (hlb := rfl) (hbl := rfl) (hpend := rfl)
      (hlr := by show (if s.lastRound + 1 > s.lastRound then _ else _) = _; rw [if_pos (by omega)])
      (hget := fun k => by rw [getRound_update, getRound_setRound]; rfl) (hev := fun r hr => ?_)
    -- the second update writes the witness flag, the first the new round
    have h2 := evRounds_update (P := fun _ => False) hr fun _ => Or.inl rfl
    have h1 : some r ∈ evRounds (St.update { s with pending := s.pending ++ [(s.lastRound + 1, false)] } id
        (fun e => { e with round := some (s.lastRound + 1) })) := h2.resolve_right fun h => h
    exact evRounds_update (P := (· = s.lastRound + 1)) h1 fun _ => Or.inr ⟨_, rfl, rfl⟩

theorem divideRounds_rinv {s : St} (hI : RInv s) : RInv s.divideRounds :=
  divideRounds_rel (Pre.imp RInv) (fun _ id ev hI => assignRound_rinv hI id ev)
    (assignLamport_rel (Pre.imp RInv) fun s id _ hI => Benign.inv (Benign.update s id _ fun _ => Or.inl rfl) hI) s hI

theorem decideFameRound_benign (acc : St × List Int) (pr : Int × Bool) (hI : RInv acc.1) :
    Benign acc.1 (decideFameRound acc pr).1 ∧
      ∀ r ∈ (decideFameRound acc pr).2, r ∈ acc.2 ∨ Latched (decideFameRound acc pr).1 r := by
  unfold decideFameRound
  simp only []
  cases hg : acc.1.getRound pr.1 with
  | none => exact ⟨.of_fields rfl rfl rfl rfl (fun _ h => Or.inl h) rfl, fun r hr => Or.inl hr⟩
  | some ri =>
    simp only []
    have hm := witnessesDecided_mono (ri.witnesses.foldl (acc.1.decideWitness pr.1) ri) (acc.1.peersAt pr.1)
    refine ⟨Benign.setRound acc.1 pr.1 ri _ hg ((hI.cont pr.1).mp (by rw [hg]; rfl)).2
      fun hd => hm.1 (by rw [decideWitnesses_keeps (·.decided) setFame_decided]; exact hd), fun r hr => ?_⟩
    split at hr
    · rcases List.mem_append.mp hr with hr | hr
      · exact Or.inl hr
      · rw [List.mem_singleton.mp hr]
        exact Or.inr ⟨_, getRound_setRound_self _ _ _, hm.2 ‹_›⟩
    · exact Or.inl hr

/-- by hand, not through `decideFame_rel`: the invariant has to speak of the rounds reported decided so
    far, which the relational lemma hides -/
theorem foldl_decideFameRound_rinv (l : List (Int × Bool)) (acc : St × List Int) (hI : RInv acc.1)
    (hD : ∀ r ∈ acc.2, Latched acc.1 r) :
    RInv (l.foldl decideFameRound acc).1 ∧ ∀ r ∈ (l.foldl decideFameRound acc).2, Latched (l.foldl decideFameRound acc).1 r := by
  induction l generalizing acc with
  | nil => exact ⟨hI, hD⟩
  | cons p l ih =>
    obtain ⟨hb, hn⟩ := decideFameRound_benign acc p hI
    exact ih (decideFameRound acc p) (hb.inv hI) fun r hr => (hn r hr).elim (fun h => hb.latched (hD r h)) id

theorem mem_reflag_true {l : List (Int × Bool)} {dr : List Int} {k : Int}
    (h : (k, true) ∈ l.map (fun p => if dr.contains p.1 then (p.1, true) else p)) : (k, true) ∈ l ∨ k ∈ dr := by
  obtain ⟨p, hp, he⟩ := List.mem_map.mp h
  by_cases hc : dr.contains p.1 = true
  · simp only [hc, if_true] at he
    injection he with h1 _
    exact Or.inr (h1 ▸ List.contains_iff_mem.mp hc)
  · simp only [hc] at he
    exact Or.inl (he ▸ hp)

theorem mem_reflag_of_mem {l : List (Int × Bool)} {dr : List Int} {k : Int} {d : Bool} (h : (k, d) ∈ l) :
    ∃ d', (k, d') ∈ l.map (fun p => if dr.contains p.1 then (p.1, true) else p) := by
  by_cases hc : dr.contains k = true
  · exact ⟨true, List.mem_map.mpr ⟨(k, d), h, by simp only [hc, if_true]⟩⟩
  · exact ⟨d, List.mem_map.mpr ⟨(k, d), h, by simp only [hc]; rfl⟩⟩

theorem decideFame_rinv {s : St} (hI : RInv s) : RInv s.decideFame := by
  unfold St.decideFame
  obtain ⟨hI', hD⟩ := foldl_decideFameRound_rinv s.pending (s, []) hI fun _ h => (by cases h)
  -- name the components of the fold's result without unfolding the fold
  revert hI' hD
  generalize s.pending.foldl decideFameRound (s, []) = acc
  obtain ⟨s', dr⟩ := acc
  intro hI' hD
  -- flagging keeps the rounds of the queue
  have hag : (s'.pending.map fun p => if dr.contains p.1 then (p.1, true) else p).map (·.1) = s'.pending.map (·.1) := by
    rw [List.map_map]
    exact List.map_congr_left fun p _ => by show (if _ then _ else _ : Int × Bool).1 = p.1; split <;> rfl
  refine
    { lb := hI'.lb, l0 := hI'.l0, cont := hI'.cont, evr := hI'.evr,
      sorted := by unfold St.agenda; rw [hag]; exact hI'.sorted,
      bound := by unfold St.agenda; rw [hag]; exact hI'.bound,
      queued := fun r ri hr => (hI'.queued r ri hr).imp id fun ⟨_, hp⟩ => mem_reflag_of_mem hp,
      flagLatched := fun r hr => (mem_reflag_true hr).elim (hI'.flagLatched r) (hD r) }

theorem decideRoundReceived_rinv {s : St} (hI : RInv s) : RInv s.decideRoundReceived :=
  decideRoundReceived_rel (Pre.imp RInv)
    (fun s i tr hg hi => Benign.inv (Benign.setRound s i tr _ hg hi (witnessesDecided_mono tr _).1))
    (fun s x i tr hg hi hI => Benign.inv (Benign.setRound _ i tr _ hg hi fun h => h)
      (Benign.inv (Benign.update s x (fun e => { e with rr := some i }) fun _ => Or.inl rfl) hI))
    (fun st _ hI => Benign.inv (s := st) (.of_fields rfl rfl rfl rfl (fun _ h => Or.inl h) rfl) hI) s hI

theorem processOne_rinv (s s' : St) (h : s.processOne = some s') (hI : RInv s) : RInv s' := by
  obtain ⟨r, _, hp, _⟩ := processOne_pending h
  obtain ⟨hev, hrounds, hlr, hlb, _, _⟩ := tables_eq (processOne_tables h)
  have hgr := getRound_of_rounds hrounds
  -- the head of the queue goes to the delivered side, or is dropped
  have hsub : s'.agenda.Sublist s.agenda := by
    unfold St.agenda
    rw [hp, List.map_cons]
    rcases processOne_blocks s s' h with ⟨hb, _⟩ | ⟨b, hb, _, _, hr⟩
    · rw [hb]; exact (List.Sublist.refl _).append (List.sublist_cons_self _ _)
    · rw [hp] at hr
      obtain rfl : r = b.rr := Option.some.inj hr
      rw [hb, List.map_append, List.append_assoc]; exact List.Sublist.refl _
  have hmemrest : ∀ p ∈ s'.pending, p ∈ s.pending := fun p hp' => by rw [hp]; exact List.mem_cons_of_mem _ hp'
  have hhead : (r, true) ∈ s.pending := by rw [hp]; exact List.mem_cons_self
  refine
    { lb := by rw [hlb]; exact hI.lb, l0 := by rw [hlr]; exact hI.l0,
      cont := fun k => by rw [hgr, hlr]; exact hI.cont k,
      evr := fun k hk => by rw [hlr]; unfold evRounds at hk; rw [hev] at hk; exact hI.evr k hk,
      sorted := hI.sorted.sublist hsub,
      bound := fun k hk => by rw [hlr]; exact hI.bound k (hsub.subset hk),
      queued := ?_, flagLatched := ?_ }
  · intro k ri hk
    rw [hgr] at hk
    rcases hI.queued k ri hk with hd | ⟨d, hpd⟩
    · left; exact hd
    · rw [hp, List.mem_cons] at hpd
      rcases hpd with he | hin
      · -- the round just processed: its latch is set
        injection he with hk1 hk2
        obtain ⟨ri', hri', hd'⟩ := hI.flagLatched r hhead
        rw [hk1, hri'] at hk; injection hk with hk
        left; rw [← hk]; exact hd'
      · right; exact ⟨d, hin⟩
  · intro k hk
    obtain ⟨ri, hri, hd⟩ := hI.flagLatched k (hmemrest _ hk)
    exact ⟨ri, by rw [hgr]; exact hri, hd⟩

theorem runAll_rinv (s : St) (es : List Ev) (hI : RInv s) (hes : ∀ e ∈ es, e.round = none) : RInv (runAll s es) :=
  runAll_induction (fun s e he => insertAndRun_rel (Pre.imp RInv) fun _ hI =>
    runConsensus_rel (Pre.imp RInv) divideRounds_rinv decideFame_rinv decideRoundReceived_rinv
      processOne_rinv (insert_rinv s e (hes e he) hI)) hI

theorem init_rinv (g : List Nat) : RInv (St.init g) where
  lb := rfl
  l0 := Int.le_refl _
  cont := fun k => by
    show ((St.init g).getRound k).isSome ↔ 0 ≤ k ∧ k ≤ -1
    constructor
    · intro h; simp [St.getRound, St.init] at h
    · intro h; omega
  evr := fun r h => by simp [evRounds, St.init] at h
  sorted := .nil
  bound := fun _ hk => nomatch hk
  queued := fun r ri h => by simp [St.getRound, St.init] at h
  flagLatched := fun r h => by simp [St.init] at h

theorem RInv.blocks_sorted {s : St} (hI : RInv s) : s.blocks.Pairwise (fun a b => a.rr < b.rr) :=
  List.pairwise_map.mp (List.pairwise_append.mp hI.sorted).1

theorem blocks_rr_increasing (g : List Nat) (es : List Ev) (hes : ∀ e ∈ es, e.round = none) :
    (runAll (St.init g) es).blocks.Pairwise (fun a b => a.rr < b.rr) :=
  (runAll_rinv _ es (init_rinv g) hes).blocks_sorted

end Babble.HG
