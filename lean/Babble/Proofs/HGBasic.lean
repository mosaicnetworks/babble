import Babble.Proofs.Ancestry
import Babble.Proofs.ListFacts
namespace Babble.HG

/-- the store's lookup is the history's (`getL`), except that the empty id names nothing -/
theorem St.get_of_ne (s : St) {id : String} (h : id ≠ "") : s.get id = getL s.events id := by
  unfold St.get; rw [if_neg (by simpa using h)]; rfl

theorem get_some {s : St} {x : String} {e : Ev} (h : s.get x = some e) : x ≠ "" ∧ getL s.events x = some e := by
  by_cases hx : x = ""
  · subst hx; cases h
  · exact ⟨hx, (s.get_of_ne hx).symm.trans h⟩

theorem get_id {s : St} {x : String} {e : Ev} (h : s.get x = some e) : e.id = x := getL_id (get_some h).2

theorem get_mem {s : St} {x : String} {e : Ev} (h : s.get x = some e) : e ∈ s.events := getL_mem (get_some h).2

theorem get_of_events {s s' : St} (h : s'.events = s.events) (x : String) : s'.get x = s.get x := by
  unfold St.get; rw [h]

theorem get_setRound (s : St) (r : Int) (ri : RoundInfo) (x : String) : (s.setRound r ri).get x = s.get x := rfl

theorem get_of_map {s s' : St} {g : Ev → Ev} (hg : ∀ e, (g e).id = e.id) (h : s'.events = s.events.map g) (x : String) :
    s'.get x = (s.get x).map g := by
  unfold St.get
  rw [h]
  split
  · rfl
  · exact find?_key_map (·.id) g hg s.events x

theorem get_update (s : St) (id : String) (f : Ev → Ev) (hf : ∀ e, (f e).id = e.id) (x : String) :
    (s.update id f).get x = if x = id then (s.get x).map f else s.get x := by
  rw [get_of_map (g := fun e => if e.id == id then f e else e) (fun e => by split <;> simp [hf]) rfl x]
  cases hg : s.get x with
  | none => split <;> rfl
  | some e =>
    rw [Option.map_some, Option.map_some, get_id hg]
    by_cases h : x = id
    · rw [if_pos h, if_pos (by simpa using h)]
    · rw [if_neg h, if_neg (by simpa using h)]

theorem get_update_ne (s : St) {id x : String} (f : Ev → Ev) (hf : ∀ e, (f e).id = e.id) (h : x ≠ id) :
    (s.update id f).get x = s.get x := by
  rw [get_update s id f hf, if_neg h]

theorem get_update_self (s : St) {id : String} {e : Ev} (f : Ev → Ev) (hf : ∀ e, (f e).id = e.id) (h : s.get id = some e) :
    (s.update id f).get id = some (f e) := by
  rw [get_update s id f hf, if_pos rfl, h]; rfl

theorem get_cons_ne (s : St) (e' : Ev) (x : String) (hne : e'.id ≠ x) :
    St.get { s with events := e' :: s.events } x = s.get x := by
  unfold St.get
  exact congrArg _ ((getL_cons e' s.events x).trans (if_neg hne))

theorem get_cons_eq (s : St) (e' : Ev) (hne : e'.id ≠ "") :
    St.get { s with events := e' :: s.events } e'.id = some e' :=
  (St.get_of_ne _ hne).trans (getL_cons_self e' s.events)

theorem get_isSome_of_mem (s : St) (l : Ev) (hl : l ∈ s.events) (hid : l.id ≠ "") : (s.get l.id).isSome := by
  rw [s.get_of_ne hid]
  exact List.find?_isSome.mpr ⟨l, hl, beq_self_eq_true _⟩

/-- the record `insertCoords` stores for `e` -/
def St.stored (s : St) (e : Ev) : Ev := { e with la := s.initLa e, fd := setAt [] e.creator (some e.index) }

def idsOf (s : St) : List String := s.events.map (·.id)

theorem get_none_of_not_mem (s : St) (x : String) (h : x ∉ idsOf s) : s.get x = none := by
  unfold St.get
  split
  · rfl
  · rw [List.find?_eq_none]
    intro e he hc
    exact h (List.mem_map.mpr ⟨e, he, by simpa using hc⟩)

theorem find_map_replace {β} (l : List (Int × β)) (r k : Int) (v : β) :
    (l.map (fun p => if p.1 == r then (r, v) else p)).find? (fun p => p.1 == k) =
      if k = r then (if l.any (fun p => p.1 == r) then some (r, v) else none) else l.find? (fun p => p.1 == k) := by
  induction l with
  | nil => simp
  | cons p l ih =>
    simp only [List.map_cons, List.find?_cons, List.any_cons, ih]
    by_cases hp : p.1 = r <;> by_cases hk : k = r
    · simp [hp, hk]
    · have : (r == k) = false := by simpa using fun h => hk h.symm
      simp [hp, hk, this]
    · have : (p.1 == r) = false := by simpa using hp
      subst hk
      simp only [this, if_true, Bool.false_or, Bool.false_eq_true, if_false]
    · have h1 : (p.1 == r) = false := by simpa using hp
      simp [hk, h1]

theorem getRound_update (s : St) (id : String) (f : Ev → Ev) (k : Int) : (s.update id f).getRound k = s.getRound k := rfl

theorem getRound_setRound (s : St) (r k : Int) (ri : RoundInfo) :
    (s.setRound r ri).getRound k = if k = r then some ri else s.getRound k := by
  unfold St.setRound St.getRound
  by_cases hany : s.rounds.any (fun p => p.1 == r) = true
  · simp only [hany, if_true, find_map_replace]
    split <;> rfl
  · simp only [hany, Bool.false_eq_true, if_false, List.find?_append]
    by_cases hk : k = r
    · subst hk
      have hnone : s.rounds.find? (fun p => p.1 == k) = none := by
        rw [List.find?_eq_none]
        intro p hp hpk
        exact hany (List.any_eq_true.mpr ⟨p, hp, hpk⟩)
      simp [hnone]
    · have h1 : (r == k) = false := by simpa using fun h => hk h.symm
      simp [hk, h1]

theorem getRound_setRound_self (s : St) (r : Int) (ri : RoundInfo) : (s.setRound r ri).getRound r = some ri := by
  rw [getRound_setRound, if_pos rfl]

theorem lastRound_setRound (s : St) (r : Int) (ri : RoundInfo) :
    (s.setRound r ri).lastRound = if r > s.lastRound then r else s.lastRound := rfl

theorem lastRound_setRound_le (s : St) {r : Int} (ri : RoundInfo) (h : r ≤ s.lastRound) :
    (s.setRound r ri).lastRound = s.lastRound := by
  rw [lastRound_setRound, if_neg (by omega)]

theorem getRound_of_rounds {s s' : St} (h : s'.rounds = s.rounds) (k : Int) : s'.getRound k = s.getRound k := by
  unfold St.getRound; rw [h]

theorem queueRound_eq (s : St) (r : Int) (ri : RoundInfo) : ∃ p, s.queueRound r ri = { s with pending := p } := by
  unfold St.queueRound
  split
  · exact ⟨_, rfl⟩
  · exact ⟨s.pending, rfl⟩

theorem applyReceipts_eq (s : St) (rr : Int) (itxs : List (Bool × Nat)) :
    ∃ v ps rep, s.applyReceipts rr itxs = { s with validators := v, peerSets := ps, repertoire := rep } := by
  unfold St.applyReceipts
  split
  · exact ⟨_, _, _, rfl⟩
  · simp only []
    split
    · exact ⟨_, _, _, rfl⟩
    · exact ⟨_, _, _, rfl⟩

theorem addCreated_decided (ri : RoundInfo) (id : String) (w : Bool) : (ri.addCreated id w).decided = ri.decided := by
  unfold RoundInfo.addCreated; split <;> rfl

theorem addCreated_received (ri : RoundInfo) (id : String) (w : Bool) : (ri.addCreated id w).received = ri.received := by
  unfold RoundInfo.addCreated; split <;> rfl

theorem setFame_decided (ri : RoundInfo) (x : String) (f : Bool) : (ri.setFame x f).decided = ri.decided := by
  unfold RoundInfo.setFame; simp only []; split <;> rfl

theorem setFame_received (ri : RoundInfo) (id : String) (f : Bool) : (ri.setFame id f).received = ri.received := by
  unfold RoundInfo.setFame; simp only []; split <;> rfl

theorem witnessesDecided_received (ri : RoundInfo) (ps : List Nat) : (ri.witnessesDecided ps).2.received = ri.received := by
  unfold RoundInfo.witnessesDecided
  split
  · rfl
  · split <;> rfl

theorem witnessesDecided_created (ri : RoundInfo) (ps : List Nat) : (ri.witnessesDecided ps).2.created = ri.created := by
  unfold RoundInfo.witnessesDecided
  split
  · rfl
  · split <;> rfl

theorem witnessesDecided_mono (ri : RoundInfo) (ps : List Nat) :
    (ri.decided = true → (ri.witnessesDecided ps).2.decided = true) ∧
    ((ri.witnessesDecided ps).1 = true → (ri.witnessesDecided ps).2.decided = true) := by
  unfold RoundInfo.witnessesDecided
  by_cases hd : ri.decided = true
  · simp [hd]
  · simp only [hd, Bool.false_eq_true, if_false]
    split <;> simp

theorem decideWitnesses_keeps {α} (proj : RoundInfo → α) (h : ∀ ri x f, proj (ri.setFame x f) = proj ri)
    (st : St) (r : Int) (l : List String) (ri : RoundInfo) : proj (l.foldl (st.decideWitness r) ri) = proj ri := by
  induction l generalizing ri with
  | nil => rfl
  | cons x l ih =>
    rw [List.foldl_cons, ih]
    unfold St.decideWitness
    split
    · rfl
    · split
      · exact h _ _ _
      · rfl

theorem parentRound_eq (s : St) (e : Ev) : s.parentRound e =
    if e.op == "" then (if e.sp == "" then -1 else s.roundOf e.sp)
    else max (if e.sp == "" then -1 else s.roundOf e.sp) (s.roundOf e.op) := by
  unfold St.parentRound
  by_cases h : (e.op == "") = true
  · rw [if_pos h, if_pos h]
  · rw [if_neg h, if_neg h]; exact ite_gt_eq_max _ _

theorem computeRound_cases (s : St) (e : Ev) :
    (s.parentRound e = -1 ∧ s.computeRound e = 0) ∨
    (s.parentRound e ≠ -1 ∧ (s.computeRound e = s.parentRound e ∨ s.computeRound e = s.parentRound e + 1)) := by
  unfold St.computeRound
  simp only []
  by_cases h : s.parentRound e = -1
  · rw [if_pos (by simpa using h)]; exact Or.inl ⟨h, rfl⟩
  · rw [if_neg (by simpa using h)]
    refine Or.inr ⟨h, ?_⟩
    split
    · exact Or.inl rfl
    · split
      · exact Or.inr rfl
      · exact Or.inl rfl

/-- the formula of `computeLamport` as a function of the timestamps by id -/
def lamF (L : String → Option Int) (sp op : String) : Int :=
  let a := if sp == "" then -1 else (L sp).getD (-1)
  if op == "" then a + 1 else
  let b := (L op).getD (-2147483648)
  (if Gen.cmpLamport.eval b a then b else a) + 1

theorem computeLamport_eq (s : St) (e : Ev) : s.computeLamport e = lamF s.lamportOf e.sp e.op := rfl

/-- `_lamportTimestamp` -/
theorem lamF_eq (L : String → Option Int) (sp op : String) :
    lamF L sp op = (if op == "" then (if sp == "" then -1 else (L sp).getD (-1))
      else max (if sp == "" then -1 else (L sp).getD (-1)) ((L op).getD (-2147483648))) + 1 := by
  unfold lamF
  by_cases h : (op == "") = true
  · rw [if_pos h, if_pos h]
  · rw [if_neg h, if_neg h]; exact congrArg (· + 1) (ite_gt_eq_max _ _)

theorem lamF_gt (L : String → Option Int) (sp op : String) :
    (sp ≠ "" → ∀ t, L sp = some t → t < lamF L sp op) ∧ (op ≠ "" → ∀ t, L op = some t → t < lamF L sp op) := by
  rw [lamF_eq]
  constructor
  · intro hsp t ht
    rw [if_neg (c := (sp == "") = true) (by simpa using hsp), ht, Option.getD_some]
    split
    · exact Int.lt_succ t
    · exact Int.lt_add_one_iff.mpr (Int.le_max_left _ _)
  · intro hop t ht
    rw [if_neg (c := (op == "") = true) (by simpa using hop), ht, Option.getD_some]
    exact Int.lt_add_one_iff.mpr (Int.le_max_right _ _)

theorem blockOf_some {index r : Int} {frame : Frame} {sorted : List Ev} {b : Block}
    (h : blockOf index r frame sorted = some b) :
    b = { index := index, rr := r, ts := frame.ts, txs := (sorted.map (·.txs)).flatten, itx := (sorted.map (·.itx)).flatten,
          events := sorted.map (·.id), peers := frame.peers } := by
  unfold blockOf at h
  simp only [] at h
  split at h
  · injection h with h; exact h.symm
  · cases h

theorem blockOf_payload_ne {index r : Int} {frame : Frame} {sorted : List Ev} {b : Block}
    (h : blockOf index r frame sorted = some b) : b.txs ≠ [] ∨ b.itx ≠ [] := by
  rw [blockOf_some h]
  unfold blockOf at h
  simp only [] at h
  split at h
  · rename_i hc
    simp only [Gen.cmpFrameNonEmpty, Gen.cmpBlockHasTx, Gen.cmpBlockHasItx, Cmp.evalN, Bool.and_eq_true,
      Bool.or_eq_true, decide_eq_true_eq] at hc
    exact hc.2.imp (fun h h0 => by simp only [] at h0; rw [h0] at h; simp at h)
      (fun h h0 => by simp only [] at h0; rw [h0] at h; simp at h)
  · cases h

theorem insertAndRun_rejected {s : St} {e : Ev} {r : Rej} (h : s.admission e = some r) : s.insertAndRun e = (s, some r) := by
  unfold St.insertAndRun; rw [h]

theorem insertAndRun_admitted {s : St} {e : Ev} (h : s.admission e = none) :
    s.insertAndRun e = ((s.insert e).runConsensus, none) := by
  unfold St.insertAndRun; rw [h]

/-- Stated for the first component, and used by rewriting: closing a goal about `(a, b).1` with a fact
    about `a` makes the unifier unfold the passes inside `a`. -/
theorem insertAndRun_fst_rejected {s : St} {e : Ev} {r : Rej} (h : s.admission e = some r) : (s.insertAndRun e).1 = s := by
  rw [insertAndRun_rejected h]

theorem insertAndRun_fst_admitted {s : St} {e : Ev} (h : s.admission e = none) :
    (s.insertAndRun e).1 = (s.insert e).runConsensus := by
  rw [insertAndRun_admitted h]

/-- A node's life: insertion attempts (each followed by the consensus passes).  The theorems about it
    assume of the offered events what their invariant needs and no more: no round yet (`RInv`: blocks
    in increasing round received), distinct ids and no round received yet (`WInv`: finality), also
    non-empty ids and no value of the attribute yet (`PInv`: timestamps and rounds along the parents). -/
def runAll (s : St) (es : List Ev) : St := es.foldl (fun st e => (st.insertAndRun e).1) s

theorem runAll_nil (s : St) : runAll s [] = s := rfl
theorem runAll_cons (s : St) (e : Ev) (es : List Ev) : runAll s (e :: es) = runAll (s.insertAndRun e).1 es := rfl

theorem runAll_append (s : St) (es es' : List Ev) : runAll s (es ++ es') = runAll (runAll s es) es' := by
  unfold runAll; rw [List.foldl_append]

end Babble.HG
