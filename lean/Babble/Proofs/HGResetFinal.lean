import Babble.Proofs.HGFinal
/-! Finality (`runAll_final`, HGFinal) needs of a state only `WInv`, which holds in the state
`resetFrom` builds: the undetermined queue is empty there. -/
namespace Babble.HG

theorem setRound_undet (s : St) (r : Int) (ri : RoundInfo) : (s.setRound r ri).undet = s.undet := rfl

/-- the record `InsertFrameEvent` stores -/
def presetOf (p : FrameEv × Ev) : Ev :=
  { p.2 with la := [], fd := [], round := some p.1.round, lamport := some p.1.lamport, wit := some p.1.witness, rr := none }

/-- the state `InsertFrameEvent` stores the record in -/
def St.framed (s : St) (p : FrameEv × Ev) : St :=
  s.setRound p.1.round (((s.getRound p.1.round).getD {}).addCreated p.1.id p.1.witness)

theorem insertFrameEvent_rel {R : St → St → Prop} (hR : Pre R)
    (hfd : ∀ s ah cr idx, R s (s.update ah (fun a => { a with fd := setAt a.fd cr (some idx) })))
    (hlc : ∀ s lc, R s { s with lastCons := lc }) (s : St) (p : FrameEv × Ev) {a : St}
    (hcons : R a { s.framed p with events := (s.framed p).stored (presetOf p) :: (s.framed p).events }) :
    R a (s.insertFrameEvent p) :=
  hR.trans (insertCoords_rel hR hfd (s.framed p) (presetOf p) hcons) (hlc _ _)

theorem foldl_insertFrameEvent_blind {α} {f : St → α} (hev : ∀ s evs, f { s with events := evs } = f s)
    (hr : ∀ s r ri, f (s.setRound r ri) = f s) (hlc : ∀ s lc, f { s with lastCons := lc } = f s)
    (l : List (FrameEv × Ev)) (s : St) : f (l.foldl St.insertFrameEvent s) = f s :=
  (Pre.proj f).foldl (fun s p => insertFrameEvent_rel (Pre.proj f) (fun s _ _ _ => hev s _) hlc s p
    ((hev _ _).trans (hr _ _ _))) l s

/-- the (frame event, core event) pairs `Reset` inserts -/
def frameSources (fr : Frame) (lookup : String → Option Ev) : List (FrameEv × Ev) :=
  ((fr.roots.map (·.2)).flatten ++ fr.events).filterMap (fun fe => (lookup fe.id).map (fun e => (fe, e)))

theorem resetFrom_eq (blk : Block) (fr : Frame) (lookup : String → Option Ev) :
    ∃ (b0 : St) (v : _) (ps : _) (rep : _), b0.events = [] ∧ b0.undet = [] ∧
      resetFrom blk fr lookup =
        { ((frameSources fr lookup).mergeSort frameEvLe).foldl St.insertFrameEvent b0 with
          blocks := [blk], lastBlock := blk.index, lcr := some blk.rr, lowerBound := some blk.rr, frames := [fr],
          validators := v, peerSets := ps, repertoire := rep } := by
  obtain ⟨v, ps, rep, h⟩ := applyReceipts_eq
    { (((frameSources fr lookup).mergeSort frameEvLe).foldl St.insertFrameEvent
        { peerSets := fr.peerSets,
          validators := ((((fr.peerSets.filter (fun p => decide (p.1 > fr.round))).getLast?).map (·.2)).getD fr.peers),
          repertoire := fr.peerSets.foldl (fun rep p => p.2.foldl addRep rep) [] } : St) with
      blocks := [blk], lastBlock := blk.index, lcr := some blk.rr, lowerBound := some blk.rr, frames := [fr] }
    blk.rr blk.itx
  exact ⟨_, v, ps, rep, rfl, rfl, h⟩

theorem resetFrom_undet (blk : Block) (fr : Frame) (lookup : String → Option Ev) :
    (resetFrom blk fr lookup).undet = [] := by
  obtain ⟨b0, _, _, _, _, hu, h⟩ := resetFrom_eq blk fr lookup
  rw [h, ← hu]
  exact foldl_insertFrameEvent_blind (f := St.undet) (fun _ _ => rfl) (fun _ _ _ => rfl) (fun _ _ => rfl) _ b0

theorem resetFrom_winv (blk : Block) (fr : Frame) (lookup : String → Option Ev) :
    WInv (resetFrom blk fr lookup) (idsOf (resetFrom blk fr lookup)) where
  undetNodup := by rw [resetFrom_undet]; exact List.nodup_nil
  undetSeen := by rw [resetFrom_undet]; intro _ h; cases h
  noRR := by intro x hx; rw [resetFrom_undet] at hx; cases hx
  idsSeen := fun _ h => h

theorem insertFrameEvent_ids (s : St) (p : FrameEv × Ev) : idsOf (s.insertFrameEvent p) = p.2.id :: idsOf s :=
  (insertFrameEvent_rel AttrOnly.pre (fun s ah _ _ => AttrOnly.update s ah _ fun _ => rfl) (fun _ _ => .of_eq rfl) s p
    (AttrOnly.pre.refl _)).ids

theorem insertFrameEvent_rel_keeps (s : St) (p : FrameEv × Ev) {a : St}
    (h : Keeps a { s.framed p with events := (s.framed p).stored (presetOf p) :: (s.framed p).events }) :
    Keeps a (s.insertFrameEvent p) :=
  insertFrameEvent_rel Keeps.pre
    (fun s ah _ _ => Keeps.update s ah _ (fun _ => rfl) fun _ _ => ⟨fun _ => ⟨rfl, rfl⟩, fun _ => rfl, rfl⟩)
    (fun _ _ => Keeps.of_events rfl) s p h

theorem insertFrameEvent_keeps (s : St) (p : FrameEv × Ev) (hf : s.get p.2.id = none) :
    Keeps s (s.insertFrameEvent p) :=
  insertFrameEvent_rel_keeps s p
    ((Keeps.of_events (s := s) (s' := s.framed p) rfl).trans (cons_keeps (s.framed p) ((s.framed p).stored (presetOf p)) hf rfl))

def Installed (s : St) (p : FrameEv × Ev) : Prop :=
  ∃ e', s.get p.2.id = some e' ∧ e'.round = some p.1.round ∧ e'.wit = some p.1.witness ∧
    e'.lamport = some p.1.lamport ∧ e'.rr = none

theorem Keeps.installed {s s' : St} (h : Keeps s s') {p : FrameEv × Ev} (hp : Installed s p) : Installed s' p := by
  obtain ⟨e, hg, hr, hw, hl, hrr⟩ := hp
  obtain ⟨e', hg', hr', hl', hrr'⟩ := h.ev _ e hg
  have h1 := hr' (by rw [hr]; rfl)
  have h2 := hl' (by rw [hl]; rfl)
  exact ⟨e', hg', h1.1.trans hr, h1.2.trans hw, h2.trans hl, hrr'.trans hrr⟩

theorem insertFrameEvent_installed (s : St) (p : FrameEv × Ev) (hne : p.2.id ≠ "") : Installed (s.insertFrameEvent p) p :=
  (insertFrameEvent_rel_keeps s p (Keeps.pre.refl _)).installed
    ⟨(s.framed p).stored (presetOf p), get_cons_eq (s.framed p) _ hne, rfl, rfl, rfl, rfl⟩

theorem foldl_insertFrameEvent_installed (l : List (FrameEv × Ev)) (s : St)
    (hnd : (l.map (·.2.id)).Nodup) (hfresh : ∀ p ∈ l, p.2.id ∉ idsOf s) (hne : ∀ p ∈ l, p.2.id ≠ "") :
    (∀ p ∈ l, Installed (l.foldl St.insertFrameEvent s) p) ∧ Keeps s (l.foldl St.insertFrameEvent s) := by
  induction l generalizing s with
  | nil => exact ⟨fun _ h => (nomatch h), Keeps.pre.refl s⟩
  | cons q l ih =>
    have hq : s.get q.2.id = none := get_none_of_not_mem s _ (hfresh q (by simp))
    have k0 := insertFrameEvent_keeps s q hq
    have hnd' : (l.map (·.2.id)).Nodup := by
      simp only [List.map_cons, List.nodup_cons] at hnd; exact hnd.2
    have hqn : q.2.id ∉ l.map (·.2.id) := by
      simp only [List.map_cons, List.nodup_cons] at hnd; exact hnd.1
    obtain ⟨h1, k1⟩ := ih (s.insertFrameEvent q) hnd'
      (fun p hp hm => by
        rw [insertFrameEvent_ids] at hm
        rcases List.mem_cons.mp hm with hm | hm
        · exact hqn (by rw [← hm]; exact List.mem_map_of_mem hp)
        · exact hfresh p (List.mem_cons_of_mem _ hp) hm)
      (fun p hp => hne p (List.mem_cons_of_mem _ hp))
    refine ⟨fun p hp => ?_, k0.trans k1⟩
    rcases List.mem_cons.mp hp with hp | hp
    · subst hp
      exact k1.installed (insertFrameEvent_installed s p (hne p (by simp)))
    · exact h1 p hp

theorem resetFrom_installed (blk : Block) (fr : Frame) (lookup : String → Option Ev)
    (hnd : ((frameSources fr lookup).map (·.2.id)).Nodup) (hne : ∀ p ∈ frameSources fr lookup, p.2.id ≠ "") :
    ∀ p ∈ frameSources fr lookup, Installed (resetFrom blk fr lookup) p := by
  intro p hp
  obtain ⟨b0, _, _, _, hev, _, h⟩ := resetFrom_eq blk fr lookup
  have hperm := List.mergeSort_perm (frameSources fr lookup) frameEvLe
  obtain ⟨h1, _⟩ := foldl_insertFrameEvent_installed ((frameSources fr lookup).mergeSort frameEvLe) b0
    ((hperm.map _).nodup_iff.mpr hnd) (fun _ _ hm => by unfold idsOf at hm; rw [hev] at hm; cases hm)
    (fun q hq => hne q (hperm.mem_iff.mp hq))
  rw [h]
  exact h1 p (hperm.mem_iff.mpr hp)

end Babble.HG
