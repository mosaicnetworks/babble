import Babble.Proofs.DagRounds
/-! A witness `y` records one entry `(id, vote, decision)` per candidate among its ancestors (`vdE`);
`decideRec` falls back to a tally of `0` yays for a candidate `y` has never heard of.  What comes out is
one equation, whichever the case (`vote_decision`).

`voteOn_eq` holds because `cmpFirstVoteRound` unfolds to `=`, `tally_no_yays` because `cmpFameTie` and
`cmpFameCoin` unfold to `≥`. -/
namespace Babble.Dag
open Babble

variable (ps : List Nat)

theorem voteOn_eq (j : Int) (mid : Bool) (ancs : List Nat) (ssw : List Rec) (x : Rec) :
    voteOn ps j mid ancs ssw x =
      if j - x.round = 1 then (ancs.contains x.e.id, none)
      else tally ps (j - x.round) mid (ssw.filter (fun w => voteGet w.votes x.e.id)).length
        (ssw.length - (ssw.filter (fun w => voteGet w.votes x.e.id)).length) := by
  by_cases h : j - x.round = 1
  · rw [if_pos h]; exact if_pos (decide_eq_true h)
  · rw [if_neg h]; exact if_neg (mt of_decide_eq_true h)

theorem decideRec_some {y x : Rec} {b : Bool} (h : decideRec ps y x = some b) :
    y.wit = true ∧ x.wit = true ∧ x.round < y.round := by
  by_cases hc : (y.wit && x.wit && decide (x.round < y.round)) = true
  · rw [Bool.and_eq_true, Bool.and_eq_true, decide_eq_true_eq] at hc
    exact ⟨hc.1.1, hc.1.2, hc.2⟩
  · rw [decideRec, (Bool.not_eq_true _).mp hc] at h
    cases h

/-- the right-hand side has the shape of `voteAtG` / `decidesAtG`, so that `voteSys_succ` ends by `rfl` -/
theorem tally_eq (diff : Int) (mid : Bool) (ya na : Nat) :
    tally ps diff mid ya na =
      (if Gen.cmpCoinTest.evalN (diff.toNat % Gen.coinRoundFreq) 0 = true then Gen.cmpFameTie.evalN ya na
       else if Gen.cmpFameCoin.evalN (if Gen.cmpFameTie.evalN ya na = true then ya else na) (sm ps) = true
         then Gen.cmpFameTie.evalN ya na else mid,
       if Gen.cmpCoinTest.evalN (diff.toNat % Gen.coinRoundFreq) 0 = true ∧
          Gen.cmpFameNormal.evalN (if Gen.cmpFameTie.evalN ya na = true then ya else na) (sm ps) = true
       then some (Gen.cmpFameTie.evalN ya na) else none) := by
  simp only [tally]
  cases Gen.cmpCoinTest.evalN (diff.toNat % Gen.coinRoundFreq) 0
  · cases Gen.cmpFameCoin.evalN (if Gen.cmpFameTie.evalN ya na = true then ya else na) (sm ps) <;> rfl
  · cases Gen.cmpFameNormal.evalN (if Gen.cmpFameTie.evalN ya na = true then ya else na) (sm ps) <;> rfl

theorem tally_no_yays (diff : Int) (mid : Bool) {na : Nat} (h : sm ps ≤ na) : (tally ps diff mid 0 na).1 = false := by
  have h0 : Gen.cmpFameTie.evalN 0 na = false := decide_eq_false (Nat.not_le.mpr (Nat.lt_of_lt_of_le (sm_pos ps) h))
  have h1 : Gen.cmpFameCoin.evalN na (sm ps) = true := decide_eq_true h
  rw [tally_eq, h0]
  simp only [Bool.false_eq_true, if_false, h1, if_true, ite_self]

def candsE (y : E) : List Rec := (tailOf ps y).filter (fun x => x.wit && decide (x.round < round ps y))

def voteSpec (y : E) (x : Rec) : Bool × Option Bool :=
  voteOn ps (round ps y) y.mid (recOf ps y).ancs (sswE ps y) x

def vdE (y : E) : List (Nat × Bool × Option Bool) :=
  if wit ps y = true then (candsE ps y).map (fun x => (x.e.id, voteSpec ps y x)) else []

theorem recOf_votes (y : E) : (recOf ps y).votes = (vdE ps y).map (fun p => (p.1, p.2.1)) := by
  cases y <;> rfl

theorem recOf_decs (y : E) :
    (recOf ps y).decs = (vdE ps y).filterMap (fun p => p.2.2.map (fun b => (p.1, b))) := by
  cases y <;> rfl

theorem recOf_nssw (y : E) : (recOf ps y).nssw = (sswE ps y).length := by
  cases y <;> rfl

theorem recOf_ancs (i c : Nat) (s o : E) (m : Bool) :
    (recOf ps (.mk i c s o m)).ancs = i :: (tailOf ps (.mk i c s o m)).map (fun r => r.e.id) := rfl

variable (x : E) in
/-- candidate first: `yaysL ps x` is the count as a function of the voter, like `VoteSys.yays vote` -/
def yaysL (y : E) : Nat := ((sswE ps y).filter (fun r => vote ps r.e x)).length

theorem voteSpec_eq {y x : E} (hxn : x ≠ .nil) :
    voteSpec ps y (recOf ps x) =
      if round ps y - round ps x = 1 then ((recOf ps y).ancs.contains x.id, none)
      else tally ps (round ps y - round ps x) y.mid (yaysL ps x y) ((sswE ps y).length - yaysL ps x y) := by
  rw [voteSpec, voteOn_eq, recOf_round ps hxn, recOf_e ps _,
    List.filter_congr fun r hr => congrArg (fun r => voteGet r.votes x.id) (sswE_sound ps hr).2]
  rfl

theorem vote_eq (y x : E) :
    vote ps y x = (((vdE ps y).find? (fun p => p.1 == x.id)).map (fun p => p.2.1)).getD false := by
  rw [vote, voteGet, recOf_votes, List.find?_map, Option.map_map]; rfl

theorem decision_some {y x : E} {b : Bool} (h : decision ps y x = some b) :
    wit ps y = true ∧ wit ps x = true ∧ round ps x < round ps y := by
  obtain ⟨hy, hx, hr⟩ := decideRec_some ps h
  rw [recOf_round ps (wit_ne_nil ps hx), recOf_round ps (wit_ne_nil ps hy)] at hr
  exact ⟨hy, hx, hr⟩

theorem decision_eq {y x : E} (hwy : wit ps y = true) (hwx : wit ps x = true) (hr : round ps x < round ps y) :
    decision ps y x =
      if (recOf ps y).ancs.contains x.id = true then
        ((recOf ps y).decs.find? (fun p => p.1 == x.id)).map (fun p => p.2)
      else if round ps y - round ps x = 1 then none
      else (tally ps (round ps y - round ps x) y.mid 0 (sswE ps y).length).2 := by
  have hxn := wit_ne_nil ps hwx
  have hyn := wit_ne_nil ps hwy
  unfold decision decideRec
  rw [recOf_wit, recOf_wit, hwy, hwx, recOf_round ps hxn, recOf_round ps hyn, decide_eq_true hr, recOf_e ps _,
    recOf_e ps _, recOf_nssw]
  simp only [Gen.cmpFirstVoteRound, Cmp.eval, decide_eq_true_eq]
  rfl

section
variable {U : E → Prop} (hI : IdInjOn U) (hD : DC U) {y x : E} (hy : U y)
include hI hD hy

theorem ancs_contains (hx : U x) (hyn : y ≠ .nil) :
    (recOf ps y).ancs.contains x.id = true ↔ Anc x y := by
  cases y with
  | nil => exact absurd rfl hyn
  | mk i c s o m =>
    rw [recOf_ancs, List.contains_iff_mem, List.mem_cons, List.mem_map]
    constructor
    · rintro (h | ⟨r, hr, hid⟩)
      · exact hI _ _ hy hx h.symm ▸ anc_refl hyn
      · have hts := (tail_sound ps hr).1.anc
        exact hI _ _ (hD _ _ hy hts) hx hid ▸ hts
    · intro h
      rcases h.eq_or_panc with rfl | h
      · exact Or.inl rfl
      · exact Or.inr ⟨recOf ps x, tail_complete ps hI hD hy h, by rw [recOf_e ps _]⟩

theorem mem_candsE (hanc : Anc x y) (hwx : wit ps x = true) (hr : round ps x < round ps y) :
    recOf ps x ∈ candsE ps y := by
  have hp : PAnc x y := hanc.eq_or_panc.resolve_left fun h => Int.lt_irrefl _ (h ▸ hr)
  rw [candsE, List.mem_filter, Bool.and_eq_true, decide_eq_true_eq, recOf_round ps (anc_ne_nil hanc)]
  exact ⟨tail_complete ps hI hD hy hp, hwx, hr⟩

theorem candsE_ids_nodup : ((candsE ps y).map (fun r => r.e.id)).Nodup :=
  (tail_ids_nodup ps hI hD hy).sublist (List.filter_sublist.map _)

theorem vdE_find (hwy : wit ps y = true) (hanc : Anc x y) (hwx : wit ps x = true) (hr : round ps x < round ps y) :
    (vdE ps y).find? (fun p => p.1 == x.id) = some (x.id, voteSpec ps y (recOf ps x)) := by
  have := find?_key_of_mem (fun r : Rec => r.e.id) (candsE_ids_nodup ps hI hD hy)
    (mem_candsE ps hI hD hy hanc hwx hr)
  rw [recOf_e ps _] at this
  rw [vdE, if_pos hwy, List.find?_map]
  show Option.map _ ((candsE ps y).find? (fun c => c.e.id == x.id)) = _
  rw [this, Option.map_some, recOf_e ps _]

theorem vdE_find_nonanc (hx : U x) (hn : ¬ Anc x y) : (vdE ps y).find? (fun p => p.1 == x.id) = none := by
  rw [vdE]
  split
  · rw [List.find?_eq_none]
    rintro _ hp hid
    obtain ⟨r, hr, rfl⟩ := List.mem_map.mp hp
    have hts := (tail_sound ps (List.mem_filter.mp hr).1).1.anc
    exact hn (hI _ _ (hD _ _ hy hts) hx (beq_iff_eq.mp hid) ▸ hts)
  · rfl

theorem vote_nonanc (hx : U x) (hn : ¬ Anc x y) : vote ps y x = false := by
  rw [vote_eq, vdE_find_nonanc ps hI hD hy hx hn]; rfl

/-- For a candidate among the ancestors both lookups hit (`vdE_find`) and find what `voteOn` computed.
    Of the others no ancestor of `y` has a vote, the tally is that of `0` yays, and that is what
    `decideRec` takes. -/
theorem vote_decision (hx : U x) (hwy : wit ps y = true) (hwx : wit ps x = true) (hr : round ps x < round ps y) :
    (vote ps y x, decision ps y x) =
      if round ps y - round ps x = 1 then ((recOf ps y).ancs.contains x.id, none)
      else tally ps (round ps y - round ps x) y.mid (yaysL ps x y) ((sswE ps y).length - yaysL ps x y) := by
  have hxn := wit_ne_nil ps hwx
  have hmem := ancs_contains ps hI hD hy hx (wit_ne_nil ps hwy)
  by_cases hanc : Anc x y
  · rw [← voteSpec_eq ps hxn]
    have hf := vdE_find ps hI hD hy hwy hanc hwx hr
    have hnd : ((vdE ps y).map (fun p => p.1)).Nodup := by
      rw [vdE, if_pos hwy, List.map_map]
      exact candsE_ids_nodup ps hI hD hy
    refine Prod.ext (by rw [vote_eq, hf]; rfl) ?_
    rw [decision_eq ps hwy hwx hr, if_pos (hmem.mpr hanc), recOf_decs, find?_filterMap_keyed _ hnd, hf]
    rfl
  · have h0 : yaysL ps x y = 0 := by
      rw [yaysL, List.length_eq_zero_iff, List.filter_eq_nil_iff]
      intro r hr'
      have hanc' := (sswE_sound ps hr').1
      exact ne_true_of_eq_false
        (vote_nonanc ps hI hD (hD _ _ hy hanc') hx fun h => hanc (anc_trans h hanc'))
    rw [vote_nonanc ps hI hD hy hx hanc, decision_eq ps hwy hwx hr, if_neg (mt hmem.mp hanc),
      Bool.eq_false_iff.mpr (mt hmem.mp hanc), h0]
    by_cases hd : round ps y - round ps x = 1
    · rw [if_pos hd, if_pos hd]
    · rw [if_neg hd, if_neg hd]
      have hry : 1 ≤ round ps y := by have := round_nonneg ps hxn; omega
      exact Prod.ext (tally_no_yays ps _ y.mid (sswE_card ps hI hD y hy hry)).symm rfl

end

end Babble.Dag
