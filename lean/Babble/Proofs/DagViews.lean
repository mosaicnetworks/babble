import Babble.Proofs.DagVote
/-! Once a view (a subset of the history closed under ancestors) has declared a round decided, a witness
of that round it does not hold is never famous, so two views that have both decided a round have the same
famous witnesses of it, hence the same round received for an event and the same events in a frame. -/
namespace Babble.Dag
open Babble Babble.Vote
open Classical

variable {ps : List Nat} {U : E → Prop}

section
variable (ps)

def DecidedIn (V : E → Prop) (x : E) (b : Bool) : Prop := ∃ y, V y ∧ decision ps y x = some b

/-- `WitnessesDecided` asks for a supermajority of decided witnesses; one is all the argument needs -/
def RoundDecided (V : E → Prop) (r : Int) : Prop :=
  (∀ x, V x → wit ps x = true → round ps x = r → ∃ b, DecidedIn ps V x b) ∧
  (∃ x b, V x ∧ wit ps x = true ∧ round ps x = r ∧ DecidedIn ps V x b)

def FamousIn (V : E → Prop) (r : Int) (x : E) : Prop :=
  V x ∧ wit ps x = true ∧ round ps x = r ∧ DecidedIn ps V x true

structure View (V U : E → Prop) : Prop where
  sub : ∀ e, V e → U e
  dc : DC V
end

section
variable (H : Hist ps U)

include H in
/-- The witnesses `z` strongly sees are a supermajority of the first voting round, the view holds
    them, so none has `x'` among its ancestors: all vote `false` -/
theorem not_famous_of_unseen {V : E → Prop} (hV : View V U) {x' z : E} (hx' : U x') (hnot : ¬ V x')
    (hVz : V z) (hwz : wit ps z = true) (hrz : round ps z - round ps x' = 2) :
    ∀ y, U y → decision ps y x' ≠ some true := by
  intro y hy hdy
  have hUz := hV.sub z hVz
  -- `Z` is a variable with `Z.1 = z`, not the literal `⟨z, …⟩`, at which every unification below would
  -- unfold `lvl`, `S` and `sees` of `voteSys`
  obtain ⟨Z, hZ⟩ : ∃ Z : W ps U x', Z.1 = z := ⟨⟨z, hUz, hwz, Int.lt_of_sub_pos (hrz ▸ by decide)⟩, rfl⟩
  have hlZ : (voteSys H (x := x')).lvl Z = 1 := (lvl_eq_iff H Z 1).mpr (by rw [hZ]; exact hrz)
  have hTl : ∀ w ∈ (voteSys H (x := x')).S Z, (voteSys H (x := x')).lvl w = 0 := fun w hw =>
    Nat.succ_injective (((voteSys H (x := x')).S_lvl Z w hw).trans hlZ)
  have hTv : ∀ w ∈ (voteSys H (x := x')).S Z, (voteSys H (x := x')).sees w = false := by
    intro w hw
    obtain ⟨hUw, -, -, hanc⟩ := ssw_facts ps U H hUz (hZ ▸ (voteSys_S_mem H).mp hw)
    exact vote_nonanc ps H.idInj H.dc hUw hx' fun ha => hnot (hV.dc _ _ (hV.dc _ _ hVz hanc) ha)
  obtain ⟨hY, d, hl, hdd⟩ := decision_as_decidesAt H hx' hy hdy
  cases (voteSys H (x := x')).late_witness_never_famous _ hTl hTv
    ((voteSys H (x := x')).S_cardG Z (by rw [hlZ]; exact Nat.one_pos)) d ⟨y, hY⟩ hl true hdd

include H in
theorem dag_late_witness_not_famous {V : E → Prop} (hV : View V U) {r : Int}
    (hdec : RoundDecided ps V r) {x' : E} (hx' : U x') (hr' : round ps x' = r)
    (hnot : ¬ V x') : ∀ y, U y → decision ps y x' ≠ some true := by
  -- the decider `y0` of some witness `x0` of round `r` is in the view; going down through strongly
  -- seen witnesses, which the view holds too, it reaches a voter `z` of level 1, two rounds above `r`
  obtain ⟨x0, b0, hVx0, hwx0, hrx0, y0, hVy0, hd0⟩ := hdec.2
  obtain ⟨hY0, d, hl, -⟩ := decision_as_decidesAt H (hV.sub x0 hVx0) (hV.sub y0 hVy0) hd0
  have hdown : ∀ y : W ps U x0, V y.1 → ∀ w ∈ (voteSys H).S y, V w.1 := fun y hy w hw => by
    obtain ⟨-, -, -, hwy⟩ := ssw_facts ps U H y.2.mem ((voteSys_S_mem H).mp hw)
    exact hV.dc _ _ hy hwy
  obtain ⟨z, hVz, hlz⟩ := (voteSys H (x := x0)).exists_lvl_one (P := fun w => V w.1) hdown d ⟨y0, hY0⟩ hl hVy0
  exact not_famous_of_unseen H hV hx' hnot hVz z.2.wit
    (by rw [hr', ← hrx0]; exact (lvl_eq_iff H z 1).mp hlz)

include H in
theorem famous_of_decided_true {A : E → Prop} (hA : View A U) {r : Int} (dA : RoundDecided ps A r)
    {x y : E} (hx : U x) (hy : U y) (hw : wit ps x = true) (hr : round ps x = r)
    (hd : decision ps y x = some true) : FamousIn ps A r x := by
  by_cases hAx : A x
  · obtain ⟨b, y', hAy', hd'⟩ := dA.1 x hAx hw hr
    cases dag_fame_agreement H hx hy (hA.sub y' hAy') hd hd'
    exact ⟨hAx, hw, hr, y', hAy', hd'⟩
  · exact absurd hd (dag_late_witness_not_famous H hA dA hx hr hAx y hy)

include H in
theorem famous_agree {A B : E → Prop} (hA : View A U) (hB : View B U) {r : Int}
    (dA : RoundDecided ps A r) (dB : RoundDecided ps B r) (x : E) :
    FamousIn ps A r x ↔ FamousIn ps B r x :=
  ⟨fun ⟨hAx, hw, hr, y, hAy, hd⟩ => famous_of_decided_true H hB dB (hA.sub x hAx) (hA.sub y hAy) hw hr hd,
   fun ⟨hBx, hw, hr, y, hBy, hd⟩ => famous_of_decided_true H hA dA (hB.sub x hBx) (hB.sub y hBy) hw hr hd⟩

include H in
/-- `B`: the same node later, or any node holding more.  This is what allows `RoundInfo` to latch
    `decided` and `DecideFame` to stop looking at the round -/
theorem famous_set_final {A B : E → Prop} (hA : View A U) (hB : View B U) (hAB : ∀ e, A e → B e) {r : Int}
    (dA : RoundDecided ps A r) (x : E) (hBx : B x) (hw : wit ps x = true) (hr : round ps x = r) :
    DecidedIn ps B x true ↔ FamousIn ps A r x :=
  ⟨fun ⟨y, hBy, hd⟩ => famous_of_decided_true H hA dA (hB.sub x hBx) (hB.sub y hBy) hw hr hd,
   fun ⟨_, _, _, y, hAy, hd⟩ => ⟨y, hAB y hAy, hd⟩⟩

section
variable (ps)

/-- the condition of `DecideRoundReceived`; Babble's `k` is a supermajority -/
def ReceivedAt (V : E → Prop) (k : Nat) (e : E) (i : Int) : Prop :=
  (∀ x, FamousIn ps V i x → Anc e x) ∧
  ∃ L : List E, L.Nodup ∧ (∀ x, x ∈ L ↔ FamousIn ps V i x) ∧ k ≤ L.length

def RoundReceived (V : E → Prop) (k : Nat) (e : E) (i : Int) : Prop :=
  round ps e < i ∧ (∀ j, round ps e < j → j ≤ i → RoundDecided ps V j) ∧
  ReceivedAt ps V k e i ∧ ∀ j, round ps e < j → j < i → ¬ ReceivedAt ps V k e j
end

include H in
theorem receivedAt_transfer {A B : E → Prop} (hA : View A U) (hB : View B U) {i : Int}
    (dA : RoundDecided ps A i) (dB : RoundDecided ps B i) {k : Nat} {e : E}
    (h : ReceivedAt ps A k e i) : ReceivedAt ps B k e i := by
  obtain ⟨hall, L, hnd, hL, hk⟩ := h
  refine ⟨fun x hx => hall x ((famous_agree H hA hB dA dB x).mpr hx), L, hnd, ?_, hk⟩
  intro x; rw [hL x]; exact famous_agree H hA hB dA dB x

include H in
theorem round_received_agree {A B : E → Prop} (hA : View A U) (hB : View B U) {k : Nat} {e : E} {i j : Int}
    (hi : RoundReceived ps A k e i) (hj : RoundReceived ps B k e j) : i = j := by
  obtain ⟨hri, hdi, hci, hmi⟩ := hi
  obtain ⟨hrj, hdj, hcj, hmj⟩ := hj
  rcases Int.lt_trichotomy i j with hlt | heq | hgt
  · -- B would have received e at i already
    exfalso
    have dA := hdi i hri (Int.le_refl _)
    have dB := hdj i hri (Int.le_of_lt hlt)
    exact hmj i hri hlt (receivedAt_transfer H hA hB dA dB hci)
  · exact heq
  · exfalso
    have dB := hdj j hrj (Int.le_refl _)
    have dA := hdi j hrj (Int.le_of_lt hgt)
    exact hmi j hrj hgt (receivedAt_transfer H hB hA dB dA hcj)

include H in
theorem round_received_transfer {A B : E → Prop} (hA : View A U) (hB : View B U) {k : Nat} (hk : 1 ≤ k)
    {e : E} {i : Int} (hi : RoundReceived ps A k e i)
    (dB : ∀ j, round ps e < j → j ≤ i → RoundDecided ps B j) : B e ∧ RoundReceived ps B k e i := by
  obtain ⟨hri, hdi, hci, hmi⟩ := hi
  have hBi := receivedAt_transfer H hA hB (hdi i hri (Int.le_refl _)) (dB i hri (Int.le_refl _)) hci
  refine ⟨?_, hri, dB, hBi, ?_⟩
  · obtain ⟨hall, L, _, hL, hlen⟩ := hBi
    obtain ⟨x, hx⟩ := List.exists_mem_of_length_pos (Nat.lt_of_lt_of_le hk hlen)
    have hf := (hL x).mp hx
    exact hB.dc _ _ hf.1 (hall x hf)
  · intro j hj1 hj2 hc
    exact hmi j hj1 hj2 (receivedAt_transfer H hB hA (dB j hj1 (Int.le_of_lt hj2)) (hdi j hj1 (Int.le_of_lt hj2)) hc)

theorem round_received_mono {V : E → Prop} {k : Nat} {a e : E} {i j : Int} (h : Anc a e)
    (hi : RoundReceived ps V k e i) (hj : RoundReceived ps V k a j) : j ≤ i := by
  obtain ⟨hri, _, ⟨hall, L, hnd, hL, hk⟩, _⟩ := hi
  obtain ⟨_, _, _, hmj⟩ := hj
  have hca : ReceivedAt ps V k a i := ⟨fun x hx => anc_trans h (hall x hx), L, hnd, hL, hk⟩
  exact Int.not_lt.mp fun hlt => hmj i (Int.lt_of_le_of_lt (round_mono ps h) hri) hlt hca

end
end Babble.Dag
