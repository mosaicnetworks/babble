import Babble.Proofs.DagRecorded
import Babble.Proofs.Vote
import Mathlib.Data.Finset.Image
import Mathlib.Data.Finset.Card
/-! For a fork-free history and a candidate witness `x`, the witnesses of later rounds form a
`Babble.Vote.VoteSys` (`S y`: the witnesses `y` strongly sees, a supermajority by `sswE_card`, one per
creator by `wit_unique`), and the votes and decisions `info` records are that system's. -/
namespace Babble.Dag
open Babble Babble.Vote
-- `WP` speaks of an arbitrary `U`, so `Finset.subtype (WP ps U x)` in `voteSys` is decided classically
open Classical

/-- No field mentions `ps`: it is a parameter so that `H : Hist ps U` fixes the validator set of
    `voteSys H`. -/
structure Hist (ps : List Nat) (U : E → Prop) : Prop where
  idInj : IdInjOn U
  dc : DC U
  forkFree : ForkFree U

variable (ps : List Nat) (U : E → Prop) (x : E)

def WP (e : E) : Prop := U e ∧ wit ps e = true ∧ round ps x < round ps e
abbrev W := {e : E // WP ps U x e}

theorem WP.mem {ps U x} {e : E} (h : WP ps U x e) : U e := h.1
theorem WP.wit {ps U x} {e : E} (h : WP ps U x e) : wit ps e = true := h.2.1
theorem WP.above {ps U x} {e : E} (h : WP ps U x e) : round ps x < round ps e := h.2.2

theorem wp_ne_nil {e : E} (h : WP ps U x e) : e ≠ .nil := wit_ne_nil ps h.wit

theorem W_creator_mem (w : W ps U x) : w.1.creator ∈ ps :=
  List.contains_iff_mem.mp (wit_round_gt ps w.2.wit).2

noncomputable def sswSet (y : E) : Finset E := ((sswE ps y).map (fun r => r.e)).toFinset

theorem ssw_map_nodup (H : Hist ps U) {y : E} (hy : U y) : ((sswE ps y).map (fun r => r.e)).Nodup := by
  refine (List.nodup_map_iff_inj_on (sswE_nodup ps H.idInj H.dc hy)).mpr ?_
  intro a ha b hb hab
  rw [(sswE_sound ps ha).2, (sswE_sound ps hb).2, hab]

theorem sswSet_card (H : Hist ps U) {y : E} (hy : U y) : (sswSet ps y).card = (sswE ps y).length := by
  unfold sswSet
  rw [List.toFinset_card_of_nodup (ssw_map_nodup ps U H hy), List.length_map]

theorem ssw_facts (H : Hist ps U) {y w : E} (hy : U y) (h : w ∈ sswSet ps y) :
    U w ∧ wit ps w = true ∧ round ps w = round ps y - 1 ∧ Anc w y := by
  obtain ⟨r, hr, rfl⟩ := List.mem_map.mp (List.mem_toFinset.mp h)
  obtain ⟨hanc, hrec⟩ := sswE_sound ps hr
  obtain ⟨_, hw, hrd, _⟩ := (mem_sswE ps).mp hr
  refine ⟨H.dc _ _ hy hanc, ?_, ?_, hanc⟩
  · rw [hrec] at hw; exact hw
  · rw [hrec, recOf_round ps (anc_ne_nil hanc)] at hrd; exact hrd

variable {ps U x}

noncomputable def voteSys (H : Hist ps U) : VoteSys (W ps U x) where
  n := ps.length
  lvl := fun w => (round ps w.1 - round ps x - 1).toNat
  creator := fun w => ⟨ps.idxOf w.1.creator, List.idxOf_lt_length_of_mem (W_creator_mem ps U x w)⟩
  creator_inj := by
    intro a b hl hc
    have ha := a.2.2.2
    have hb := b.2.2.2
    have hr : round ps a.1 = round ps b.1 := by
      have : (round ps a.1 - round ps x - 1).toNat = (round ps b.1 - round ps x - 1).toNat := hl
      omega
    have hcr : a.1.creator = b.1.creator := by
      have h1 : ps.idxOf a.1.creator = ps.idxOf b.1.creator := by
        simpa using congrArg Fin.val hc
      exact (List.idxOf_inj (W_creator_mem ps U x a)).mp h1
    exact Subtype.ext (wit_unique ps H.forkFree a.2.1 b.2.1 a.2.2.1 b.2.2.1 hcr hr)
  S := fun y => (sswSet ps y.1).subtype (WP ps U x)
  S_lvl := by
    intro y w hw
    have hmem : w.1 ∈ sswSet ps y.1 := Finset.mem_subtype.mp hw
    have hf := ssw_facts ps U H y.2.1 hmem
    have hwr := w.2.2.2
    have : round ps w.1 = round ps y.1 - 1 := hf.2.2.1
    show (round ps w.1 - round ps x - 1).toNat + 1 = (round ps y.1 - round ps x - 1).toNat
    omega
  S_cardG := by
    intro y hy
    have hlv : 0 < (round ps y.1 - round ps x - 1).toNat := hy
    have hx0 : -1 ≤ round ps x := round_ge ps x
    have hcard := sswE_card ps H.idInj H.dc y.1 y.2.1 (by omega)
    rw [Finset.card_subtype]
    have hall : (sswSet ps y.1).filter (WP ps U x) = sswSet ps y.1 := by
      apply Finset.filter_true_of_mem
      intro w hw
      have hf := ssw_facts ps U H y.2.1 hw
      exact ⟨hf.1, hf.2.1, by rw [hf.2.2.1]; omega⟩
    rw [hall, sswSet_card ps U H y.2.1]
    exact hcard
  sees := fun w => vote ps w.1 x
  coin := fun w => w.1.mid

section
variable (H : Hist ps U)

theorem voteSys_S_mem {y w : W ps U x} : w ∈ (voteSys H).S y ↔ w.1 ∈ sswSet ps y.1 := Finset.mem_subtype

/-- `((d + 1 : Nat) : Int)` reduces to a numeral when `d` is one: a hypothesis `… = 2` is taken as it
    is for `d = 1` (`not_famous_of_unseen`, `dag_late_witness_not_famous`), and `… = 1` for `d = 0`
    (`voteSys_succ`, `decision_as_decidesAt`) -/
theorem lvl_eq_iff (y : W ps U x) (d : Nat) :
    (voteSys H).lvl y = d ↔ round ps y.1 - round ps x = (d + 1 : Nat) := by
  have := y.2.above
  show (round ps y.1 - round ps x - 1).toNat = d ↔ _
  omega

theorem ssw_all_WP {y : W ps U x} {d : Nat} (hl : (voteSys H).lvl y = d + 1) {w : E}
    (hw : w ∈ sswSet ps y.1) : WP ps U x w := by
  obtain ⟨hU, hwit, hrd, -⟩ := ssw_facts ps U H y.2.mem hw
  refine ⟨hU, hwit, ?_⟩
  have := (lvl_eq_iff H y (d + 1)).mp hl
  omega

theorem card_filter_S {y : W ps U x} {d : Nat} (hl : (voteSys H).lvl y = d + 1) (g : E → Bool) :
    (((voteSys H).S y).filter (fun w => g w.1 = true)).card = ((sswE ps y.1).filter (fun r => g r.e)).length := by
  -- push the count forward along the inclusion of the voters into the events
  rw [← Finset.card_map (Function.Embedding.subtype _)]
  show (Finset.map _ (Finset.filter ((fun e => g e = true) ∘ Function.Embedding.subtype _)
    ((sswSet ps y.1).subtype (WP ps U x)))).card = _
  rw [← Finset.filter_map, Finset.subtype_map, Finset.filter_true_of_mem fun e => ssw_all_WP H hl, sswSet,
    ← List.toFinset_filter, List.toFinset_card_of_nodup ((ssw_map_nodup ps U H y.2.mem).filter _), List.filter_map,
    List.length_map]
  rfl

theorem card_S {y : W ps U x} {d : Nat} (hl : (voteSys H).lvl y = d + 1) :
    ((voteSys H).S y).card = (sswE ps y.1).length := by
  show ((sswSet ps y.1).subtype (WP ps U x)).card = _
  rw [Finset.card_subtype, Finset.filter_true_of_mem fun e => ssw_all_WP H hl, sswSet_card ps U H y.2.mem]

end

section
variable (H : Hist ps U) (hx : U x) (hwx : wit ps x = true)

include hx hwx in
/-- the joint induction step of `vote_eq_voteAtG` and `decision_eq_decidesAtG`: vote and decision go
    together because `tally` computes both from one count. -/
theorem voteSys_succ (d : Nat) (y : W ps U x) (hl : (voteSys H).lvl y = d + 1)
    (ih : ∀ w : W ps U x, (voteSys H).lvl w = d → (voteSys H).voteAtG d w = vote ps w.1 x) :
    ((voteSys H).voteAtG (d + 1) y, (voteSys H).decidesAtG d y) = (vote ps y.1 x, decision ps y.1 x) := by
  have hdiff := (lvl_eq_iff H y (d + 1)).mp hl
  have hd : round ps y.1 - round ps x ≠ 1 := fun h =>
    Nat.succ_ne_zero d (hl.symm.trans ((lvl_eq_iff H y 0).mpr h))
  have hya : (voteSys H).yays ((voteSys H).voteAtG d) y = yaysL ps x y.1 := by
    unfold VoteSys.yays
    rw [Finset.filter_congr fun w hw => by
      rw [ih w (Nat.succ_injective (((voteSys H).S_lvl y w hw).trans hl))]]
    exact card_filter_S H hl (fun e => vote ps e x)
  have hna := (voteSys H).yays_add_nays ((voteSys H).voteAtG d) y
  rw [hya, card_S H hl] at hna
  -- the model's side becomes the right-hand side of `tally_eq`, with the system's `yays` for the
  -- list count (`hya`), its `nays` for `length - yays` (`hna`) and `d + 2` for `diff.toNat` (`hdiff`);
  -- that is what `voteAtG (d + 1)` and `decidesAtG d` unfold to
  rw [vote_decision ps H.idInj H.dc y.2.mem hx y.2.wit hwx y.2.above, if_neg hd, tally_eq,
    ← Nat.eq_sub_of_add_eq' hna, ← hya, hdiff, Int.toNat_natCast]
  rfl

include hx hwx in
theorem vote_eq_voteAtG : ∀ (d : Nat) (y : W ps U x), (voteSys H (x := x)).lvl y = d →
    (voteSys H (x := x)).voteAtG d y = vote ps y.1 x := by
  intro d
  induction d with
  | zero => exact fun _ _ => rfl
  | succ d ih => exact fun y hl => (Prod.mk.inj (voteSys_succ H hx hwx d y hl ih)).1

include hx hwx in
theorem decision_eq_decidesAtG (d : Nat) (y : W ps U x) (hl : (voteSys H (x := x)).lvl y = d + 1) :
    (voteSys H (x := x)).decidesAtG d y = decision ps y.1 x :=
  (Prod.mk.inj (voteSys_succ H hx hwx d y hl (vote_eq_voteAtG H hx hwx d))).2

include H hx hwx in
theorem decision_first_round {y : E} (hy : U y) (hwy : wit ps y = true) (hd : round ps y - round ps x = 1) :
    decision ps y x = none :=
  congrArg Prod.snd
    ((vote_decision ps H.idInj H.dc hy hx hwy hwx (Int.lt_of_sub_pos (hd ▸ Int.one_pos))).trans (if_pos hd))

include H in
theorem decision_as_decidesAt {x y : E} (hx : U x) (hy : U y) {b : Bool} (h : decision ps y x = some b) :
    ∃ (hY : WP ps U x y) (d : Nat), (voteSys H).lvl ⟨y, hY⟩ = d + 1 ∧
      (voteSys H).decidesAt d ⟨y, hY⟩ = some b := by
  obtain ⟨hwy, hwx, hr⟩ := decision_some ps h
  -- level 0 is the first voting round, where nothing is decided
  have hl0 : (voteSys H).lvl ⟨y, hy, hwy, hr⟩ ≠ 0 := fun h0 => by
    rw [decision_first_round H hx hwx hy hwy ((lvl_eq_iff H ⟨y, hy, hwy, hr⟩ 0).mp h0)] at h
    cases h
  obtain ⟨d, hl⟩ := Nat.exists_eq_succ_of_ne_zero hl0
  refine ⟨⟨hy, hwy, hr⟩, d, hl, ?_⟩
  rw [← (voteSys H).decidesAtG_eq, decision_eq_decidesAtG H hx hwx _ _ hl]
  exact h

include H hx in
theorem dag_fame_agreement {y y' : E} (hy : U y) (hy' : U y') {b b' : Bool}
    (h : decision ps y x = some b) (h' : decision ps y' x = some b') : b = b' := by
  obtain ⟨hY, d, hl, hd⟩ := decision_as_decidesAt H hx hy h
  obtain ⟨hY', d', hl', hd'⟩ := decision_as_decidesAt H hx hy' h'
  exact (voteSys H).decisions_agree d d' _ _ hl hl' b b' hd hd'

end

end Babble.Dag
