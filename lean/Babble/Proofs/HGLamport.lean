import Babble.Proofs.HGAssigned
import Babble.Proofs.HGOrder
/-! The Lamport timestamp as an instance of `HGAssigned`: in every state a node started from genesis
    reaches, every stored event has a timestamp, both parents it names are stored, and their timestamps
    are strictly smaller. -/
namespace Babble.HG

def LAll (s : St) : Prop := ∀ x, (s.parOf x).isSome → (s.lamportOf x).isSome
def PSet (s : St) : Prop := ∀ x sp op t, s.parOf x = some (sp, op) → s.lamportOf x = some t →
  (sp ≠ "" → ∀ tp, s.lamportOf sp = some tp → tp < t) ∧ (op ≠ "" → ∀ tp, s.lamportOf op = some tp → tp < t)

/-- Spelled out, and not an abbreviation of `PInv` like `RMInv`, because C04 states theorems with it;
    `LInv.pinv` says it is `PInv` at the attribute `lamport`. -/
structure LInv (s : St) : Prop where
  all : LAll s
  par : ParIn s
  lt : PSet s

theorem lamport_assigned :
    Assigned (·.lamport) (fun st _ ev => lamF st.lamportOf ev.sp ev.op) (· < ·) (· < ·) where
  reads _ _ _ _ h := h
  kept e e' a h hk := by rw [hk.2 (by rw [h]; rfl)]; exact h
  divide st y ev hg x := by
    rw [vOf_divideOne (·.lamport) hg x]
    by_cases hxy : x = y
    · subst hxy
      rw [if_pos rfl, vOf_of_get _ hg]
      cases h : ev.lamport <;> simp
    · rw [if_neg hxy, if_neg fun h => hxy h.1]
  rel st _ ev := ⟨fun h _ => (lamF_gt st.lamportOf ev.sp ev.op).1 h, (lamF_gt st.lamportOf ev.sp ev.op).2⟩

theorem divideOne_lamportOf (st : St) (y : String) (x : String) :
    (divideOne st y).lamportOf x =
      match st.parOf y with
      | some (sp, op) =>
        if x = y ∧ (st.lamportOf y).isNone then some (lamF st.lamportOf sp op) else st.lamportOf x
      | none => st.lamportOf x := by
  cases hg : st.get y with
  | none => rw [parOf_none_of_get st y hg, divideOne_none hg]
  | some ev =>
    rw [parOf_of_get hg]
    refine (lamport_assigned.divide st y ev hg x).trans ?_
    have : (st.lamportOf y).isNone = true ↔ ev.lamport = none := by
      unfold St.lamportOf; rw [hg]; exact Option.isNone_iff_eq_none
    simp only [this]; rfl

theorem fdWalk_lamportOf (s : St) (fuel : Nat) (ah : String) (cr : Nat) (idx : Int) (x : String) :
    (s.fdWalk fuel ah cr idx).lamportOf x = s.lamportOf x :=
  fdWalk_rel (Pre.proj (·.lamportOf x)) (fun s ah cr idx => by
    unfold St.lamportOf
    rw [get_update s ah (fun a => { a with fd := setAt a.fd cr (some idx) }) fun _ => rfl]
    split
    · cases s.get x <;> rfl
    · rfl) s fuel ah cr idx

/-- `LInv` is the generic invariant at the attribute `lamport` (`s.lamportOf x` unfolds to `vOf (·.lamport) s x`) -/
theorem LInv.pinv {s : St} : LInv s ↔ PInv (·.lamport) (· < ·) (· < ·) s :=
  ⟨fun h => ⟨h.all, h.par, h.lt⟩, fun h => ⟨h.all, h.par, h.rel⟩⟩

theorem LInv.of_final {s s' : St} (hA : AttrOnly s s') (hF : Final s s') (h : LInv s) : LInv s' :=
  LInv.pinv.mpr ((LInv.pinv.mp h).of_final lamport_assigned hA hF)

theorem runAll_linv (g : List Nat) (es : List Ev) (hnd : (es.map (·.id)).Nodup)
    (hfresh : ∀ e ∈ es, e.id ≠ "" ∧ e.lamport = none ∧ e.rr = none) : LInv (runAll (St.init g) es) :=
  LInv.pinv.mpr (runAll_pinv lamport_assigned _ es [] (init_winv g) (init_pinv g) (by simpa using hnd) hfresh)

theorem lamport_parents (g : List Nat) (es : List Ev) (hnd : (es.map (·.id)).Nodup)
    (hfresh : ∀ e ∈ es, e.id ≠ "" ∧ e.lamport = none ∧ e.rr = none) (x : String) (e : Ev)
    (hx : (runAll (St.init g) es).get x = some e) :
    ∃ t, e.lamport = some t ∧
      (e.sp ≠ "" → ∃ p tp, (runAll (St.init g) es).get e.sp = some p ∧ p.lamport = some tp ∧ tp < t) ∧
      (e.op ≠ "" → ∃ p tp, (runAll (St.init g) es).get e.op = some p ∧ p.lamport = some tp ∧ tp < t) :=
  (LInv.pinv.mp (runAll_linv g es hnd hfresh)).parents hx

theorem LInv.anc_lt {s : St} (hI : LInv s) {a b : String} (h : ProperAncestor s a b) :
    ∃ ta tb, s.lamportOf a = some ta ∧ s.lamportOf b = some tb ∧ ta < tb :=
  (LInv.pinv.mp hI).anc (T := fun a b => a < b) (fun _ _ _ => Int.lt_trans) (fun _ _ h => h) (fun _ _ h => h) h

theorem frame_order_extends_ancestry (s : St) (hI : LInv s) (r : Int) (ri : RoundInfo) (i j : Nat)
    (hi : i < (s.getFrame r ri).2.length) (hj : j < (s.getFrame r ri).2.length)
    (h : ProperAncestor s ((s.getFrame r ri).2[i]).id ((s.getFrame r ri).2[j]).id) : i < j := by
  obtain ⟨hsort, hperm⟩ := getFrame_sorted s r ri
  have hget : ∀ e ∈ (s.getFrame r ri).2, s.get e.id = some e := by
    intro e he
    have := hperm.subset he
    simp only [List.mem_filterMap] at this
    obtain ⟨id, _, hid⟩ := this
    rw [get_id hid]; exact hid
  obtain ⟨ta, tb, hta, htb, hlt⟩ := hI.anc_lt h
  have hla : ((s.getFrame r ri).2[i]).lamport = some ta := by
    have := hget _ (List.getElem_mem hi)
    unfold St.lamportOf at hta; rw [this] at hta; simpa using hta
  have hlb : ((s.getFrame r ri).2[j]).lamport = some tb := by
    have := hget _ (List.getElem_mem hj)
    unfold St.lamportOf at htb; rw [this] at htb; simpa using htb
  exact sorted_lamport_order _ hsort i j hi hj (by rw [hla, hlb]; simpa using hlt)

end Babble.HG
