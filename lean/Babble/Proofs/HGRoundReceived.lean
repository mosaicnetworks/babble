import Babble.Proofs.HGFinal
/-! Along the life of any node satisfying `WInv`, a round received is strictly above the round:
    `DivideRounds` has just given every undetermined event a round, the search of `DecideRoundReceived`
    starts at round + 1 and only moves upwards, and what is set is kept (`Keeps`). -/
namespace Babble.HG

def RRI (s : St) : Prop := ∀ x e, s.get x = some e → ∀ k, e.rr = some k → ∃ r, e.round = some r ∧ r < k

theorem Keeps.rri {s s' : St} (h : Keeps s s') (hI : RRI s) : RRI s' := by
  intro x e' hx' k hk
  cases hx : s.get x with
  | none => rw [h.fresh x hx e' hx'] at hk; cases hk
  | some e =>
    obtain ⟨e'', hg, hr, _, hrr⟩ := h.ev x e hx
    rw [hx'] at hg; injection hg with hg; subst hg
    rw [hrr] at hk
    obtain ⟨r, hr0, hlt⟩ := hI x e hx k hk
    exact ⟨r, by rw [(hr (by rw [hr0]; rfl)).1]; exact hr0, hlt⟩

theorem rrLoop_rr (s : St) (x : String) (fuel : Nat) (i : Int) :
    ∀ e, s.get x = some e → ∃ e', (s.rrLoop x fuel i).1.get x = some e' ∧ e'.round = e.round ∧
      (e'.rr = e.rr ∨ ∃ j, i ≤ j ∧ e'.rr = some j) := by
  intro e he
  rcases rrLoop_spec (Pre.proj St.events) (fun _ _ _ _ _ => rfl) s x fuel i with ⟨_, hev⟩ | ⟨_, s1, j, tr, hev, hj, _, _, heq⟩
  · exact ⟨e, by rw [get_of_events hev]; exact he, rfl, Or.inl rfl⟩
  · exact ⟨{ e with rr := some j }, by
      rw [heq, get_setRound]
      exact get_update_self s1 (fun e => { e with rr := some j }) (fun _ => rfl) (by rw [get_of_events hev]; exact he),
      rfl, Or.inr ⟨j, hj, rfl⟩⟩

theorem divideRounds_round_set (s : St) : ∀ x ∈ s.undet, ∀ e, s.divideRounds.get x = some e → e.round.isSome := by
  have := foldl_rest (f := divideOne) (P := fun st rest => ∀ x ∈ s.undet, x ∉ rest → ∀ e, st.get x = some e → e.round.isSome)
    (fun st y rest h x hx hxr e' he' => by
      by_cases hxy : x = y
      · -- the record `divideOne` is called for has a round now
        subst hxy
        cases hg : st.get x with
        | none => rw [divideOne_none hg, hg] at he'; cases he'
        | some ev =>
          rw [divideOne_get st x ev hg, if_pos rfl] at he'; injection he' with he'
          rw [← he']; cases ev.round <;> rfl
      · have : (divideOne st y).get x = st.get x := by
          cases hg : st.get y with
          | none => rw [divideOne_none hg]
          | some ev => rw [divideOne_get st y ev hg, if_neg hxy]
        rw [this] at he'
        exact h x hx (fun hm => (List.mem_cons.mp hm).elim hxy hxr) e' he')
    s.undet s (fun x hx hxn => absurd hx hxn)
  exact fun x hx => this x hx List.not_mem_nil

theorem decideRoundReceived_rri (s : St) (hI : RRI s) (hR : ∀ x ∈ s.undet, ∀ e, s.get x = some e → e.round.isSome) :
    RRI s.decideRoundReceived :=
  (decideRoundReceived_inv (P := fun st q => RRI st ∧ ∀ x ∈ q, ∀ e, st.get x = some e → e.round.isSome) (fun _ _ _ _ _ _ h => h)
    (fun st q q' x j _ hq _ _ hlt h => by
      have hxq : x ∈ q := hq.mem_iff.mpr List.mem_cons_self
      refine ⟨fun y e' hy k hk => ?_, fun y hyq e' hy => ?_⟩ <;>
        rw [get_setRound, get_update st x (fun e => { e with rr := some j }) fun _ => rfl] at hy
      · split at hy
        · -- `x` itself: it has a round, below the round it is received in
          rename_i hyx; subst hyx
          cases hg : st.get y with
          | none => rw [hg] at hy; cases hy
          | some e =>
            rw [hg] at hy; injection hy with hy
            obtain ⟨r0, hr0⟩ := Option.isSome_iff_exists.mp (h.2 y hxq e hg)
            have : st.roundOf y = r0 := by unfold St.roundOf; rw [hg]; simp [hr0]
            rw [← hy] at hk ⊢; injection hk with hk
            exact ⟨r0, hr0, by omega⟩
        · exact h.1 y e' hy k hk
      · split at hy
        · rename_i hyx; subst hyx
          cases hg : st.get y with
          | none => rw [hg] at hy; cases hy
          | some e => rw [hg] at hy; injection hy with hy; rw [← hy]; exact h.2 y hxq e hg
        · exact h.2 y (hq.mem_iff.mpr (List.mem_cons_of_mem _ hyq)) e' hy)
    (fun _ _ h => h) s ⟨hI, hR⟩).1

theorem runConsensus_rri (s : St) (hI : RRI s) : RRI s.runConsensus := by
  have k2 := decideFame_keeps s.divideRounds
  refine (processLoop_keeps _ _).rri (decideRoundReceived_rri _ (k2.rri ((divideRounds_keeps s).rri hI)) fun x hx e he => ?_)
  rw [(decideFame_quiet _).undet, (divideRounds_quiet s).undet] at hx
  rw [get_of_events (decideFame_events _)] at he
  exact divideRounds_round_set s x hx e he

theorem runAll_rri (s : St) (es : List Ev) (seen : List String) (hW : WInv s seen) (hI : RRI s)
    (hnd : (seen ++ es.map (·.id)).Nodup) (hrr : ∀ e ∈ es, e.rr = none) : RRI (runAll s es) :=
  (runAll_seen (P := fun s seen => WInv s seen ∧ RRI s) es
    (fun _ _ _ h => ⟨h.1.mono fun x hx => List.mem_append.mpr (Or.inl hx), h.2⟩)
    (fun s seen e he h hf _ => by
      obtain ⟨k0, hW1⟩ := insert_winv s e seen h.1 hf (hrr e he)
      exact ⟨(runConsensus_winv _ _ hW1).2, runConsensus_rri _ (k0.rri h.2)⟩) s seen ⟨hW, hI⟩ hnd).2

theorem init_rri (g : List Nat) : RRI (St.init g) := fun x e hx => by
  rw [get_none_of_not_mem _ x List.not_mem_nil] at hx; cases hx

theorem round_received_above_round (g : List Nat) (es : List Ev) (hnd : (es.map (·.id)).Nodup)
    (hfresh : ∀ e ∈ es, e.id ≠ "" ∧ e.round = none ∧ e.rr = none) (x : String) (e : Ev) (k : Int)
    (hx : (runAll (St.init g) es).get x = some e) (hk : e.rr = some k) : ∃ r, e.round = some r ∧ r < k :=
  runAll_rri _ es [] (init_winv g) (init_rri g) (by simpa using hnd) (fun e he => (hfresh e he).2.2) x e hx k hk

end Babble.HG
