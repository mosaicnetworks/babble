import Babble.Proofs.HGBasic
/-! `InsertEvent` only admits events that extend the history as `AdmInv` demands, and changes to the
mutable attributes keep it (`evCore`, `AdmInv_map`).  That the passes change nothing else is in
`Proofs/AttrOnly.lean`. -/
namespace Babble.HG

def evCore (e : Ev) := (e.id, e.creator, e.index, e.sp, e.op, e.la, e.sigok, e.txs, e.itx, e.ts, e.key, e.mid)

theorem evCore_fields {a b : Ev} (h : evCore a = evCore b) :
    a.id = b.id ∧ a.creator = b.creator ∧ a.index = b.index ∧ a.sp = b.sp ∧ a.op = b.op ∧ a.la = b.la := by
  simp only [evCore, Prod.mk.injEq] at h
  exact ⟨h.1, h.2.1, h.2.2.1, h.2.2.2.1, h.2.2.2.2.1, h.2.2.2.2.2.1⟩

theorem getL_map (g : Ev → Ev) (hg : ∀ e, evCore (g e) = evCore e) (es : List Ev) (id : String) :
    getL (es.map g) id = (getL es id).map g :=
  find?_key_map (fun e : Ev => e.id) g (fun e => (evCore_fields (hg e)).1) es id

theorem lastFromL_map (g : Ev → Ev) (hg : ∀ e, evCore (g e) = evCore e) (es : List Ev) (c : Nat) :
    lastFromL (es.map g) c = (lastFromL es c).map g :=
  find?_key_map (fun e : Ev => e.creator) g (fun e => (evCore_fields (hg e)).2.1) es c

theorem laOf_map (g : Ev → Ev) (hg : ∀ e, evCore (g e) = evCore e) (es : List Ev) (id : String) :
    laOf (es.map g) id = laOf es id := by
  unfold laOf
  rw [getL_map g hg]
  cases getL es id with
  | none => rfl
  | some e => exact (evCore_fields (hg e)).2.2.2.2.2

theorem AdmInv_map (g : Ev → Ev) (hg : ∀ e, evCore (g e) = evCore e) {es : List Ev} (hI : AdmInv es) :
    AdmInv (es.map g) := by
  induction es with
  | nil => trivial
  | cons e es ih =>
    obtain ⟨hI', hne, hfresh, hchain, hop, hla⟩ := hI
    obtain ⟨hid, hcr, hidx, hsp, hopp, hlaa⟩ := evCore_fields (hg e)
    -- every clause of `AdmInv (g e :: es.map g)` is the clause for `e :: es`, read through `g`
    refine ⟨ih hI', hid ▸ hne, ?_, ?_, ?_, ?_⟩
    · rw [getL_map g hg, hid, hfresh]; rfl
    · rw [lastFromL_map g hg, hcr, hsp, hidx]
      revert hchain
      cases lastFromL es e.creator with
      | none => exact id
      | some l =>
        obtain ⟨hlid, _, hlidx, _⟩ := evCore_fields (hg l)
        exact fun h => ⟨hlid ▸ h.1, hlidx ▸ h.2⟩
    · rw [hopp, getL_map g hg, Option.isSome_map]; exact hop
    · rw [hlaa, hla, laOf_map g hg, laOf_map g hg, hsp, hopp, hcr, hidx, hid]

theorem St.get_eq (s : St) (hI : AdmInv s.events) (id : String) : s.get id = getL s.events id := by
  by_cases h : id = ""
  · subst h; rw [getL_empty hI]; rfl
  · exact s.get_of_ne h

/-- `byIndex` is `ParticipantEvent` -/
theorem byIndex_of_mem (s : St) (hI : AdmInv s.events) (p : Ev) (hp : p ∈ s.events) :
    s.byIndex p.creator p.index = some p := by
  unfold St.byIndex
  cases hf : s.events.find? (fun e => e.creator == p.creator && e.index == p.index) with
  | none =>
    have := List.find?_eq_none.mp hf p hp
    simp at this
  | some q =>
    have hq := List.mem_of_find?_eq_some hf
    have hc := List.find?_some hf
    simp only [Bool.and_eq_true, beq_iff_eq] at hc
    rw [unique_index hI hq hp hc.1 hc.2]

theorem initLa_eq (s : St) (hI : AdmInv s.events) (e : Ev) :
    s.initLa e = setAt (mergeLa (laOf s.events e.sp) (laOf s.events e.op)) e.creator
      (some { idx := e.index, id := e.id }) := by
  unfold St.initLa St.laOf laOf
  rw [s.get_eq hI, s.get_eq hI]
  cases getL s.events e.sp <;> cases getL s.events e.op <;> simp [mergeLa, mergeLa_nil_right]

theorem admission_eq_none_iff (s : St) (e : Ev) :
    s.admission e = none ↔ e.sigok = true ∧ s.repertoire.contains e.creator = true ∧
      (match s.lastFrom e.creator with
       | none => e.sp = "" ∧ e.index = 0
       | some l => e.sp = l.id ∧ e.index = l.index + 1) ∧
      (e.op = "" ∨ (s.get e.op).isSome) := by
  have hop : ¬ ((e.op != "" && (s.get e.op).isNone) = true) ↔ e.op = "" ∨ (s.get e.op).isSome := by
    cases s.get e.op <;> simp
  unfold St.admission
  cases s.lastFrom e.creator <;>
    simp only [ite_some_eq_none, hop, Bool.not_eq_true', Bool.not_eq_false, bne_iff_ne, ne_eq,
      Decidable.not_not, and_true] <;>
    -- `St.admission` checks self-parent, other-parent, index in that order; the statement pairs the two
    -- chain clauses (self-parent and index) as `AdmInv` does
    exact ⟨fun ⟨h1, h2, h3, h4, h5⟩ => ⟨h1, h2, ⟨h3, h5⟩, h4⟩, fun ⟨h1, h2, ⟨h3, h5⟩, h4⟩ => ⟨h1, h2, h3, h4, h5⟩⟩

theorem admitted_next {s : St} {e l : Ev} (hadm : s.admission e = none) (hl : s.lastFrom e.creator = some l) :
    e.sp = l.id ∧ e.index = l.index + 1 := by
  have h := ((admission_eq_none_iff s e).mp hadm).2.2.1
  rwa [hl] at h

/-- `hid`/`hfresh` are the hash assumptions (an event's id is the hash of its body: non-empty, and not
    the id of a different stored event — see `fresh_of_hash` in Proofs/AttrOnly.lean). -/
theorem admitted_AdmInv (s : St) (e : Ev) (hI : AdmInv s.events) (hadm : s.admission e = none)
    (hid : e.id ≠ "") (hfresh : getL s.events e.id = none) :
    AdmInv (s.stored e :: s.events) := by
  obtain ⟨_, _, hchain, hop⟩ := (admission_eq_none_iff s e).mp hadm
  rw [s.get_eq hI] at hop
  exact ⟨hI, hid, hfresh, hchain, hop, initLa_eq s hI e⟩

end Babble.HG
