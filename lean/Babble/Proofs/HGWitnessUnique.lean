import Babble.Proofs.HGRoundMono
/-! Rounds never decrease along ancestry, a creator's events form a chain (`chain`, Proofs/Ancestry), and
    a witness's round is strictly above its self-parent's: two stored witnesses of one creator in one
    round are the same event. -/
namespace Babble.HG

theorem RMInv.anc_round_le {s : St} (hM : RMInv s) (hI : AdmInv s.events) {a b : String} (h : Anc s.events a b)
    {ea eb : Ev} {ra rb : Int} (ha : s.get a = some ea) (hb : s.get b = some eb)
    (hra : ea.round = some ra) (hrb : eb.round = some rb) : ra ≤ rb := by
  rcases anc_proper _ hI a b h with rfl | hpa
  · rw [ha] at hb; cases hb
    rw [hra] at hrb; cases hrb
    exact Int.le_refl _
  · obtain ⟨ta, tb, hta, htb, hle⟩ := hM.anc (T := fun p c => p.1 ≤ c.1)
      (fun _ _ _ => Int.le_trans) (fun _ _ h => h.1) (fun _ _ h => h) hpa
    rw [vOf_of_get _ ha] at hta
    rw [vOf_of_get _ hb] at htb
    rw [(roundWit_some hta).1] at hra; cases hra
    rw [(roundWit_some htb).1] at hrb; cases hrb
    exact hle

theorem RMInv.witness_unique {s : St} (hM : RMInv s) (hI : AdmInv s.events) {y z : Ev} {r : Int}
    (hy : y ∈ s.events) (hz : z ∈ s.events) (hc : y.creator = z.creator)
    (hwy : y.wit = some true) (hwz : z.wit = some true) (hry : y.round = some r) (hrz : z.round = some r) : y = z := by
  -- without loss of generality y is not later than z on the creator's chain
  have main : ∀ y z : Ev, y ∈ s.events → z ∈ s.events →
      y.creator = z.creator → y.wit = some true → z.wit = some true → y.round = some r → z.round = some r →
      y.index ≤ z.index → y = z := by
    intro y z hy hz hc hwy hwz hry hrz hle
    by_cases heq : y.index = z.index
    · exact unique_index hI hy hz hc heq
    · exfalso
      have hget : ∀ {w}, w ∈ s.events → s.get w.id = some w := fun hw => (St.get_eq _ hI _).trans (getL_of_mem hI hw)
      -- z has a self-parent l, which y is an ancestor of: round y ≤ round l < round z
      rcases sp_spec hI hz with ⟨_, h0⟩ | ⟨l, hl, hlc, hli⟩
      · have hy0 := index_nonneg hI hy
        omega
      · have hlm := getL_mem hl
        have hgl : s.get z.sp = some l := (St.get_eq _ hI _).trans hl
        obtain ⟨rl, hrl, _, _⟩ := hM.round_parents hgl
        have hanc := chain hI hy hlm (hc.trans hlc.symm) (by omega)
        have h1 := hM.anc_round_le hI hanc (hget hy) (hget hlm) hry hrl
        have h2 := hM.witness_above (hget hz) hwz hrz (getL_ne_empty hI hl) hgl hrl
        omega
  by_cases hle : y.index ≤ z.index
  · exact main y z hy hz hc hwy hwz hry hrz hle
  · exact (main z y hz hy hc.symm hwz hwy hrz hry (by omega)).symm

theorem anc_round_le (g : List Nat) (es : List Ev) (hnd : (es.map (·.id)).Nodup)
    (hfresh : ∀ e ∈ es, e.id ≠ "" ∧ e.round = none ∧ e.rr = none)
    (hI : AdmInv (runAll (St.init g) es).events) (a b : String)
    (h : Anc (runAll (St.init g) es).events a b) :
    ∀ ea eb ra rb, (runAll (St.init g) es).get a = some ea → (runAll (St.init g) es).get b = some eb →
      ea.round = some ra → eb.round = some rb → ra ≤ rb :=
  fun _ _ _ _ ha hb hra hrb => (runAll_rminv g es hnd hfresh).anc_round_le hI h ha hb hra hrb

theorem witness_unique (g : List Nat) (es : List Ev) (hnd : (es.map (·.id)).Nodup)
    (hfresh : ∀ e ∈ es, e.id ≠ "" ∧ e.round = none ∧ e.rr = none) (y z : Ev) (r : Int)
    (hy : y ∈ (runAll (St.init g) es).events) (hz : z ∈ (runAll (St.init g) es).events)
    (hc : y.creator = z.creator) (hwy : y.wit = some true) (hwz : z.wit = some true)
    (hry : y.round = some r) (hrz : z.round = some r) : y = z :=
  (runAll_rminv g es hnd hfresh).witness_unique (runAll_admInv_of_nodup g es (fun a ha => (hfresh a ha).1) hnd)
    hy hz hc hwy hwz hry hrz

end Babble.HG
