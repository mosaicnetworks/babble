import Babble.Proofs.HGFrame
/-! Blocks are appended one at a time with consecutive indexes. -/
namespace Babble.HG

def consec : Int → List Block → Prop
  | _, [] => True
  | k, b :: bs => b.index = k ∧ consec (k+1) bs

theorem consec_append (k : Int) (bs new : List Block) :
    consec k (bs ++ new) ↔ consec k bs ∧ consec (k + bs.length) new := by
  induction bs generalizing k with
  | nil => simp [consec]
  | cons a bs ih =>
    simp only [List.cons_append, consec, ih, List.length_cons, and_assoc]
    have : k + 1 + (bs.length : Int) = k + ((bs.length + 1 : Nat) : Int) := by omega
    rw [this]

def BlkInv (first : Int) (s : St) : Prop :=
  consec first s.blocks ∧ s.lastBlock = first + s.blocks.length - 1

theorem applyReceipts_blocks (s : St) (rr : Int) (itxs : List (Bool × Nat)) :
    (s.applyReceipts rr itxs).blocks = s.blocks ∧ (s.applyReceipts rr itxs).lastBlock = s.lastBlock := by
  obtain ⟨_, _, _, h⟩ := applyReceipts_eq s rr itxs
  rw [h]; exact ⟨rfl, rfl⟩

theorem processOne_blocks (s s' : St) (h : s.processOne = some s') :
    (s'.blocks = s.blocks ∧ s'.lastBlock = s.lastBlock) ∨
    (∃ b, s'.blocks = s.blocks ++ [b] ∧ b.index = s.lastBlock + 1 ∧ s'.lastBlock = s.lastBlock + 1 ∧
          s.pending.head?.map (·.1) = some b.rr) := by
  obtain ⟨r, rest, ri, hp, _, ⟨_, h⟩ | ⟨b, hb, h⟩⟩ := processOne_spec h
  · rw [h]; exact Or.inl ⟨rfl, rfl⟩
  · rw [h]
    exact Or.inr ⟨b, (addBlock_blocks _ b).1, by rw [blockOf_some hb], (addBlock_blocks _ b).2, by rw [hp, blockOf_some hb]; rfl⟩

def Extends (s s' : St) : Prop :=
  ∃ new, s'.blocks = s.blocks ++ new ∧ s'.lastBlock = s.lastBlock + new.length ∧ consec (s.lastBlock + 1) new

theorem Extends.pre : Pre Extends where
  refl s := ⟨[], by simp [consec]⟩
  trans := by
    intro a b c ⟨n1, h1, l1, c1⟩ ⟨n2, h2, l2, c2⟩
    refine ⟨n1 ++ n2, by rw [h2, h1, List.append_assoc], by rw [l2, l1, List.length_append]; omega, ?_⟩
    rw [consec_append]
    refine ⟨c1, ?_⟩
    rw [l1] at c2
    have : a.lastBlock + (n1.length : Int) + 1 = a.lastBlock + 1 + n1.length := by omega
    rw [← this]; exact c2

theorem Extends.of_out {a b : St} (h : b.out = a.out) : Extends a b :=
  ⟨[], by simp [(out_blocks h).1, (out_blocks h).2, consec]⟩

theorem Extends.blkInv {first : Int} {a b : St} (h : Extends a b) (hI : BlkInv first a) : BlkInv first b := by
  obtain ⟨new, hb, hl, hc⟩ := h
  unfold BlkInv at *
  rw [hb, hl, consec_append, List.length_append]
  refine ⟨⟨hI.1, ?_⟩, by omega⟩
  have : first + (a.blocks.length : Int) = a.lastBlock + 1 := by omega
  rw [this]; exact hc

theorem processOne_extends (s s' : St) (h : s.processOne = some s') : Extends s s' := by
  rcases processOne_blocks s s' h with ⟨hb, hl⟩ | ⟨b, hb, hi, hl, _⟩
  · exact ⟨[], by simp [hb, hl, consec]⟩
  · exact ⟨[b], hb, by rw [hl]; rfl, hi, trivial⟩

theorem processLoop_extends (fuel : Nat) (s : St) : Extends s (s.processLoop fuel) :=
  processLoop_rel Extends.pre processOne_extends fuel s

theorem insertAndRun_extends (s : St) (e : Ev) : Extends s (s.insertAndRun e).1 :=
  insertAndRun_rel Extends.pre fun _ => Extends.pre.trans (.of_out (insert_out s e))
    (runConsensus_rel Extends.pre (.of_out (divideRounds_out _)) (.of_out (decideFame_out _))
      (.of_out (decideRoundReceived_out _)) processOne_extends)

theorem runAll_extends (s : St) (es : List Ev) : Extends s (runAll s es) :=
  runAll_rel Extends.pre insertAndRun_extends s es

theorem init_blkInv (g : List Nat) : BlkInv 0 (St.init g) := by
  unfold BlkInv St.init; simp [consec]

theorem consec_getElem (k : Int) (bs : List Block) (h : consec k bs) (i : Nat) (hi : i < bs.length) :
    (bs[i]).index = k + i := by
  induction bs generalizing k i with
  | nil => cases hi
  | cons b bs ih =>
    cases i with
    | zero => simpa using h.1
    | succ i =>
      have := ih (k+1) h.2 i (by simpa using hi)
      simp only [List.getElem_cons_succ, this]; push_cast; omega

end Babble.HG
