import Babble.Proofs.HGRounds
/-! # Every event is received by one round, once — hence committed in at most one block, once.
    For the operational model started from genesis. -/
namespace Babble.HG

def recvOf (s : St) (k : Int) : List String := ((s.getRound k).map (·.received)).getD []

theorem recv_setRound (s : St) (r k : Int) (ri : RoundInfo) :
    recvOf (s.setRound r ri) k = if k = r then ri.received else recvOf s k := by
  unfold recvOf
  rw [getRound_setRound]
  split <;> rfl

theorem recv_update (s : St) (id : String) (f : Ev → Ev) (k : Int) : recvOf (s.update id f) k = recvOf s k := rfl

structure Quiet (s s' : St) : Prop where
  recv : ∀ k, recvOf s' k = recvOf s k
  undet : s'.undet = s.undet
  blocks : s'.blocks = s.blocks

theorem Quiet.pre : Pre Quiet :=
  ⟨fun _ => ⟨fun _ => rfl, rfl, rfl⟩,
   fun h1 h2 => ⟨fun k => (h2.recv k).trans (h1.recv k), h2.undet.trans h1.undet, h2.blocks.trans h1.blocks⟩⟩

theorem Quiet.update (s : St) (id : String) (f : Ev → Ev) : Quiet s (s.update id f) := ⟨fun _ => rfl, rfl, rfl⟩

theorem Quiet.setRound (s : St) (r : Int) (ri : RoundInfo) (h : ri.received = recvOf s r) : Quiet s (s.setRound r ri) :=
  ⟨fun k => by rw [recv_setRound]; split <;> simp_all, rfl, rfl⟩

theorem recv_of_getRound {s : St} {r : Int} {ri : RoundInfo} (h : s.getRound r = some ri) : recvOf s r = ri.received := by
  unfold recvOf; rw [h]; rfl

theorem divideRounds_quiet (s : St) : Quiet s s.divideRounds :=
  divideRounds_rel Quiet.pre
    (assignRound_rel Quiet.pre (fun _ _ => ⟨fun _ => rfl, rfl, rfl⟩) (fun _ _ _ => Quiet.update _ _ _)
      (fun s r _ _ => Quiet.setRound s r _ (by rw [addCreated_received]; unfold recvOf; cases s.getRound r <;> rfl))
      fun _ _ _ => Quiet.update _ _ _)
    (assignLamport_rel Quiet.pre fun _ _ _ => Quiet.update _ _ _) s

theorem decideFame_quiet (s : St) : Quiet s s.decideFame :=
  decideFame_rel Quiet.pre
    (fun s r ri hg => Quiet.setRound s r _ (by
      rw [witnessesDecided_received, decideWitnesses_keeps (·.received) setFame_received, recv_of_getRound hg]))
    (fun _ _ => ⟨fun _ => rfl, rfl, rfl⟩) s

/-- what one search does to the received lists: nothing, or — when it succeeds — `x` is appended to
    the list of exactly one round (a reading of `rrLoop_spec`; `CInv.receive` below works from the write itself) -/
def RecvStep (s s' : St) (x : String) (got : Bool) : Prop :=
  s'.undet = s.undet ∧ s'.blocks = s.blocks ∧
  ((got = false ∧ ∀ k, recvOf s' k = recvOf s k) ∨
   (got = true ∧ ∃ i, recvOf s' i = recvOf s i ++ [x] ∧ ∀ k, k ≠ i → recvOf s' k = recvOf s k))

theorem rrLoop_recv (s : St) (x : String) (fuel : Nat) (i : Int) :
    RecvStep s (s.rrLoop x fuel i).1 x (s.rrLoop x fuel i).2 := by
  rcases rrLoop_spec Quiet.pre
      (fun s i tr hg _ => Quiet.setRound s i _ (by rw [witnessesDecided_received, recv_of_getRound hg])) s x fuel i with
    ⟨hgot, h⟩ | ⟨hgot, s1, j, tr, h, _, _, hg, heq⟩
  · rw [hgot]; exact ⟨h.undet, h.blocks, Or.inl ⟨rfl, h.recv⟩⟩
  · rw [hgot, heq]
    refine ⟨h.undet, h.blocks, Or.inr ⟨rfl, j, ?_, fun k hk => ?_⟩⟩
    · rw [recv_setRound, if_pos rfl, ← h.recv, recv_of_getRound hg]
    · rw [recv_setRound, if_neg hk, recv_update, h.recv]

/-- `q`: the undetermined queue, or what a running `DecideRoundReceived` has left and has still to look
    at; `seen` (ghost): the ids offered so far. -/
structure CInv (s : St) (q seen : List String) : Prop where
  qNodup : q.Nodup
  qSeen : ∀ x ∈ q, x ∈ seen
  recvNodup : ∀ k, (recvOf s k).Nodup
  recvDisjoint : ∀ k k', k ≠ k' → ∀ x ∈ recvOf s k, x ∉ recvOf s k'
  recvNotQ : ∀ k, ∀ x ∈ recvOf s k, x ∉ q
  recvSeen : ∀ k, ∀ x ∈ recvOf s k, x ∈ seen
  inBlocks : ∀ b ∈ s.blocks, b.events.Nodup ∧ ∀ x ∈ b.events, x ∈ recvOf s b.rr

theorem CInv.of_recv {s s' : St} {u seen : List String} (hI : CInv s u seen) (hr : ∀ k, recvOf s' k = recvOf s k)
    (hb : s'.blocks = s.blocks) : CInv s' u seen where
  qNodup := hI.qNodup
  qSeen := hI.qSeen
  recvNodup := fun k => by rw [hr]; exact hI.recvNodup k
  recvDisjoint := fun k k' hk x hx => by rw [hr] at hx ⊢; exact hI.recvDisjoint k k' hk x hx
  recvNotQ := fun k x hx => by rw [hr] at hx; exact hI.recvNotQ k x hx
  recvSeen := fun k x hx => by rw [hr] at hx; exact hI.recvSeen k x hx
  inBlocks := fun b hbm => by rw [hb] at hbm; rw [hr]; exact hI.inBlocks b hbm

theorem Quiet.cinv {s s' : St} {seen : List String} (h : Quiet s s') (hI : CInv s s.undet seen) : CInv s' s'.undet seen := by
  rw [h.undet]; exact hI.of_recv h.recv h.blocks

theorem CInv.mono {s : St} {u seen seen' : List String} (hI : CInv s u seen) (h : ∀ x ∈ seen, x ∈ seen') : CInv s u seen' :=
  ⟨hI.qNodup, fun x hx => h x (hI.qSeen x hx), hI.recvNodup, hI.recvDisjoint, hI.recvNotQ, fun k x hx => h x (hI.recvSeen k x hx), hI.inBlocks⟩

theorem CInv.snoc {s : St} {u seen : List String} {x : String} (hI : CInv s u seen) (hf : x ∉ seen) :
    CInv s (u ++ [x]) (seen ++ [x]) where
  qNodup := nodup_snoc hI.qNodup fun h => hf (hI.qSeen x h)
  qSeen := fun y hy => List.mem_append.mpr ((List.mem_append.mp hy).imp (hI.qSeen y) id)
  recvNodup := hI.recvNodup
  recvDisjoint := hI.recvDisjoint
  recvNotQ := fun k y hy hm => by
    rcases List.mem_append.mp hm with hm | hm
    · exact hI.recvNotQ k y hy hm
    · exact hf (by rw [← List.mem_singleton.mp hm]; exact hI.recvSeen k y hy)
  recvSeen := fun k y hy => List.mem_append.mpr (Or.inl (hI.recvSeen k y hy))
  inBlocks := hI.inBlocks

theorem CInv.receive {st : St} {q q' seen : List String} {x : String} {j : Int} {tr : RoundInfo}
    (hq : q.Perm (x :: q')) (hg : st.getRound j = some tr) (h : CInv st q seen) :
    CInv ((st.update x (fun e => { e with rr := some j })).setRound j { tr with received := tr.received ++ [x] }) q' seen := by
  generalize hst : (st.update x (fun e => { e with rr := some j })).setRound j { tr with received := tr.received ++ [x] } = st'
  have hi : recvOf st' j = recvOf st j ++ [x] := by rw [← hst, recv_setRound, if_pos rfl, recv_of_getRound hg]
  have hk : ∀ k, k ≠ j → recvOf st' k = recvOf st k := fun k hk => by rw [← hst, recv_setRound, if_neg hk, recv_update]
  have hb : st'.blocks = st.blocks := by rw [← hst]; rfl
  have hxnotin : ∀ k, x ∉ recvOf st k := fun k hx => h.recvNotQ k x hx (hq.mem_iff.mpr List.mem_cons_self)
  obtain ⟨hxq, hnd⟩ := List.nodup_cons.mp (hq.nodup_iff.mp h.qNodup)
  have hsub : ∀ y ∈ q', y ∈ q := fun y hy => hq.mem_iff.mpr (List.mem_cons_of_mem _ hy)
  have recv_cases : ∀ k y, y ∈ recvOf st' k → (y ∈ recvOf st k) ∨ (k = j ∧ y = x) := by
    intro k y hy
    by_cases hkj : k = j
    · rw [hkj, hi] at hy
      exact (List.mem_append.mp hy).imp (hkj ▸ id) fun h => ⟨hkj, List.mem_singleton.mp h⟩
    · rw [hk k hkj] at hy; exact Or.inl hy
  refine ⟨hnd, fun y hy => h.qSeen y (hsub y hy), ?_, ?_, ?_, ?_, ?_⟩
  · intro k
    by_cases hkj : k = j
    · rw [hkj, hi]
      exact nodup_snoc (h.recvNodup j) (hxnotin j)
    · rw [hk k hkj]; exact h.recvNodup k
  · intro k k' hkk y hy hy'
    rcases recv_cases k y hy with h1 | ⟨h1, h1'⟩ <;> rcases recv_cases k' y hy' with h2 | ⟨h2, h2'⟩
    · exact h.recvDisjoint k k' hkk y h1 h2
    · exact hxnotin k (h2' ▸ h1)
    · exact hxnotin k' (h1' ▸ h2)
    · exact hkk (h1.trans h2.symm)
  · intro k y hy hm
    rcases recv_cases k y hy with h1 | ⟨_, h1'⟩
    · exact h.recvNotQ k y h1 (hsub y hm)
    · exact hxq (h1' ▸ hm)
  · intro k y hy
    rcases recv_cases k y hy with h1 | ⟨_, h1'⟩
    · exact h.recvSeen k y h1
    · exact h1' ▸ h.qSeen x (hq.mem_iff.mpr List.mem_cons_self)
  · intro b hbm
    rw [hb] at hbm
    refine ⟨(h.inBlocks b hbm).1, fun y hy => ?_⟩
    have := (h.inBlocks b hbm).2 y hy
    by_cases hkj : b.rr = j
    · rw [hkj, hi]; rw [hkj] at this; exact List.mem_append.mpr (Or.inl this)
    · rw [hk _ hkj]; exact this

theorem decideRoundReceived_cinv (s : St) (seen : List String) (hI : CInv s s.undet seen) :
    CInv s.decideRoundReceived s.decideRoundReceived.undet seen :=
  decideRoundReceived_inv (P := fun st q => CInv st q seen)
    (fun st q i tr hg _ h => h.of_recv (Quiet.setRound st i _ (by rw [witnessesDecided_received, recv_of_getRound hg])).recv rfl)
    (fun _ _ _ _ _ _ hq hg _ _ h => h.receive hq hg) (fun st _ h => h.of_recv (fun _ => rfl) rfl) s hI

theorem map_id_filterMap_get (s : St) (l : List String) :
    (l.filterMap s.get).map (·.id) = l.filter (fun x => (s.get x).isSome) := by
  induction l with
  | nil => rfl
  | cons x l ih =>
    cases hg : s.get x with
    | none => simp [hg, ih]
    | some e => simp [hg, ih, get_id hg]

theorem frame_ids (s : St) (r : Int) (ri : RoundInfo) (hnd : ri.received.Nodup) :
    ((s.getFrame r ri).2.map (·.id)).Nodup ∧ ∀ x ∈ (s.getFrame r ri).2.map (·.id), x ∈ ri.received := by
  have hperm : ((s.getFrame r ri).2.map (·.id)).Perm ((ri.received.filterMap s.get).map (·.id)) :=
    (List.mergeSort_perm _ _).map _
  rw [map_id_filterMap_get] at hperm
  refine ⟨hperm.nodup_iff.mpr (hnd.sublist List.filter_sublist), fun x hx => ?_⟩
  exact (List.mem_filter.mp (hperm.mem_iff.mp hx)).1

theorem processOne_cinv (s s' : St) (seen : List String) (h : s.processOne = some s') (hI : CInv s s.undet seen) :
    CInv s' s'.undet seen := by
  obtain ⟨_, hrounds, _, _, hu, _⟩ := tables_eq (processOne_tables h)
  have hrecv : ∀ k, recvOf s' k = recvOf s k := fun k => by unfold recvOf; rw [getRound_of_rounds hrounds]
  rw [hu]
  obtain ⟨r, rest, ri, _, hg, ⟨_, hs⟩ | ⟨nb, hnb, hs⟩⟩ := processOne_spec h
  · exact hI.of_recv hrecv (by rw [hs]; rfl)
  · -- all fields but `inBlocks` read only `recvOf`, which is unchanged: they are taken from the state with
    -- the old blocks (their types do not mention the blocks), and `inBlocks` is proved afresh
    refine { hI.of_recv (s' := { s' with blocks := s.blocks }) hrecv rfl with inBlocks := fun b hbm => ?_ }
    rw [hs, show (St.popPending _ r rest).blocks = (St.addBlock _ nb).blocks from rfl, (addBlock_blocks _ nb).1] at hbm
    rw [hrecv]
    rcases List.mem_append.mp hbm with hbm | hbm
    · exact hI.inBlocks b hbm
    · rw [List.mem_singleton.mp hbm, blockOf_some hnb, recv_of_getRound hg]
      exact frame_ids s r ri (by rw [← recv_of_getRound hg]; exact hI.recvNodup r)

theorem runConsensus_cinv (s : St) (seen : List String) (hI : CInv s s.undet seen) :
    CInv s.runConsensus s.runConsensus.undet seen :=
  runConsensus_rel (Pre.imp fun s => CInv s s.undet seen) (divideRounds_quiet _).cinv (decideFame_quiet _).cinv
    (decideRoundReceived_cinv _ seen) (fun s s' => processOne_cinv s s' seen) hI

theorem insert_undet (s : St) (e : Ev) : (s.insert e).undet = s.undet ++ [e.id] := by
  show (s.insertCoords e).undet ++ [e.id] = _
  rw [insertCoords_rel (Pre.proj St.undet) (fun _ _ _ _ => rfl) s e rfl]

theorem insert_cinv (s : St) (e : Ev) (seen : List String) (hI : CInv s s.undet seen) (hf : e.id ∉ seen) :
    CInv (s.insert e) (s.insert e).undet (seen ++ [e.id]) := by
  have hr : recvOf (s.insert e) = recvOf s :=
    insert_rel (Pre.proj recvOf) (fun _ _ _ _ => rfl) (fun _ _ _ _ => rfl) s e rfl
  rw [insert_undet]
  exact (hI.snoc hf).of_recv (congrFun hr) (out_blocks (insert_out s e)).1

theorem runAll_cinv (s : St) (es : List Ev) (seen : List String) (hI : CInv s s.undet seen)
    (hnd : (seen ++ es.map (·.id)).Nodup) : CInv (runAll s es) (runAll s es).undet (seen ++ es.map (·.id)) :=
  runAll_seen (P := fun s seen => CInv s s.undet seen) es (fun _ _ _ h => h.mono fun _ hx => List.mem_append.mpr (Or.inl hx))
    (fun s seen e _ hI hf _ => runConsensus_cinv _ _ (insert_cinv s e seen hI hf)) s seen hI hnd

theorem init_cinv (g : List Nat) : CInv (St.init g) [] [] where
  qNodup := List.nodup_nil
  qSeen := fun _ h => by cases h
  recvNodup := fun _ => List.nodup_nil
  recvDisjoint := fun _ _ _ _ h => by cases h
  recvNotQ := fun _ _ h => by cases h
  recvSeen := fun _ _ h => by cases h
  inBlocks := fun _ h => by cases h

/-- blocks of different rounds draw on the received lists of different rounds -/
theorem CInv.committed_once {s : St} {q seen : List String} (hC : CInv s q seen) (hR : RInv s) :
    (∀ b ∈ s.blocks, b.events.Nodup) ∧ s.blocks.Pairwise (fun a b => ∀ x ∈ a.events, x ∉ b.events) :=
  ⟨fun b hb => (hC.inBlocks b hb).1, hR.blocks_sorted.imp_of_mem fun {a b} ha hb hlt x hxa hxb =>
    hC.recvDisjoint a.rr b.rr (Int.ne_of_lt hlt) x ((hC.inBlocks a ha).2 x hxa) ((hC.inBlocks b hb).2 x hxb)⟩

theorem committed_once (g : List Nat) (es : List Ev) (hes : ∀ e ∈ es, e.round = none) (hnd : (es.map (·.id)).Nodup) :
    (∀ b ∈ (runAll (St.init g) es).blocks, b.events.Nodup) ∧
    (runAll (St.init g) es).blocks.Pairwise (fun a b => ∀ x ∈ a.events, x ∉ b.events) :=
  (runAll_cinv (St.init g) es [] (init_cinv g) (by simpa using hnd)).committed_once (runAll_rinv _ es (init_rinv g) hes)

end Babble.HG
