import Babble.Proofs.HGFrame
/-! # Fame decisions are final: once a witness is recorded famous or not famous in the table of its
    round, no later insertion or consensus pass changes that.  Operational model. -/
namespace Babble.HG

def Decd (ri : RoundInfo) (x : String) (f : Fame) : Prop :=
  ∃ re ∈ ri.created, re.id = x ∧ re.witness = true ∧ re.fame = f ∧ f ≠ .undef

def RKeeps (ri ri' : RoundInfo) : Prop := ∀ x f, Decd ri x f → Decd ri' x f

theorem RKeeps.refl (ri : RoundInfo) : RKeeps ri ri := fun _ _ h => h
theorem RKeeps.trans {a b c : RoundInfo} (h1 : RKeeps a b) (h2 : RKeeps b c) : RKeeps a c := fun x f h => h2 x f (h1 x f h)

theorem RKeeps.of_created {ri ri' : RoundInfo} (h : ri'.created = ri.created) : RKeeps ri ri' := by
  intro x f ⟨re, hm, h1⟩; exact ⟨re, by rw [h]; exact hm, h1⟩

theorem addCreated_rkeeps (ri : RoundInfo) (id : String) (w : Bool) : RKeeps ri (ri.addCreated id w) := by
  unfold RoundInfo.addCreated
  split
  · exact RKeeps.refl ri
  · intro x f ⟨re, hm, h1⟩; exact ⟨re, List.mem_append.mpr (Or.inl hm), h1⟩

theorem setFame_rkeeps (ri : RoundInfo) (x : String) (v : Bool) (hnd : ri.isDecided x = false) :
    RKeeps ri (ri.setFame x v) := by
  intro y f ⟨re, hm, hid, hw, hf, hne⟩
  have hyx : re.id ≠ x := by
    intro hx
    have : ri.isDecided x = true := by
      unfold RoundInfo.isDecided
      rw [List.any_eq_true]
      refine ⟨re, hm, ?_⟩
      have hb : (re.fame != Fame.undef) = true := by
        rw [hf]; cases f
        · exact absurd rfl hne
        · rfl
        · rfl
      simp [hx, hw, hb]
    rw [hnd] at this; cases this
  unfold RoundInfo.setFame
  simp only []
  split
  · refine ⟨re, ?_, hid, hw, hf, hne⟩
    apply List.mem_map.mpr
    refine ⟨re, hm, ?_⟩
    have : (re.id == x) = false := by simpa using hyx
    simp [this]
  · exact ⟨re, List.mem_append.mpr (Or.inl hm), hid, hw, hf, hne⟩

theorem witnessesDecided_rkeeps (ri : RoundInfo) (ps : List Nat) : RKeeps ri (ri.witnessesDecided ps).2 :=
  RKeeps.of_created (witnessesDecided_created ri ps)

theorem decideWitnesses_rkeeps (st : St) (r : Int) (l : List String) (ri : RoundInfo) :
    RKeeps ri (l.foldl (st.decideWitness r) ri) := by
  induction l generalizing ri with
  | nil => exact RKeeps.refl ri
  | cons x l ih =>
    refine RKeeps.trans ?_ (ih _)
    unfold St.decideWitness
    by_cases hd : ri.isDecided x = true
    · rw [if_pos hd]; exact RKeeps.refl ri
    · rw [if_neg hd]
      split
      · exact setFame_rkeeps ri x _ (by simpa using hd)
      · exact RKeeps.refl ri

def FKeeps (s s' : St) : Prop :=
  ∀ r ri x f, s.getRound r = some ri → Decd ri x f → ∃ ri', s'.getRound r = some ri' ∧ Decd ri' x f

theorem FKeeps.pre : Pre FKeeps where
  refl _ := fun _ ri _ _ h hd => ⟨ri, h, hd⟩
  trans h1 h2 := fun r ri x f hg hd => by
    obtain ⟨ri1, hg1, hd1⟩ := h1 r ri x f hg hd
    exact h2 r ri1 x f hg1 hd1

theorem FKeeps.of_rounds {s s' : St} (h : s'.rounds = s.rounds) : FKeeps s s' :=
  fun r ri x f hg hd => ⟨ri, by rw [getRound_of_rounds h]; exact hg, hd⟩

theorem FKeeps.setRound (s : St) (r : Int) (ri' : RoundInfo) (h : ∀ ri0, s.getRound r = some ri0 → RKeeps ri0 ri') :
    FKeeps s (s.setRound r ri') := by
  intro k ri x f hg hd
  rw [getRound_setRound]
  by_cases hk : k = r
  · subst hk
    rw [if_pos rfl]
    exact ⟨ri', rfl, h ri hg x f hd⟩
  · rw [if_neg hk]
    exact ⟨ri, hg, hd⟩

theorem FKeeps.setRound_of {s : St} {r : Int} {ri ri' : RoundInfo} (hg : s.getRound r = some ri) (h : RKeeps ri ri') :
    FKeeps s (s.setRound r ri') :=
  FKeeps.setRound s r ri' fun ri0 h0 => by rw [hg] at h0; injection h0 with h0; rw [← h0]; exact h

theorem insert_fkeeps (s : St) (e : Ev) : FKeeps s (s.insert e) :=
  .of_rounds (insert_rel (Pre.proj St.rounds) (fun _ _ _ _ => rfl) (fun _ _ _ _ => rfl) s e rfl)

theorem divideRounds_fkeeps (s : St) : FKeeps s s.divideRounds :=
  divideRounds_rel FKeeps.pre
    (assignRound_rel FKeeps.pre (fun _ _ => .of_rounds rfl) (fun _ _ _ => .of_rounds rfl)
      (fun s r id w => FKeeps.setRound s r _ fun ri0 hg => by rw [hg]; exact addCreated_rkeeps ri0 id w)
      fun _ _ _ => .of_rounds rfl)
    (assignLamport_rel FKeeps.pre fun _ _ _ => .of_rounds rfl) s

theorem decideFame_fkeeps (s : St) : FKeeps s s.decideFame :=
  decideFame_rel FKeeps.pre
    (fun s r ri hg => .setRound_of hg ((decideWitnesses_rkeeps s r _ ri).trans (witnessesDecided_rkeeps _ _)))
    (fun _ _ => .of_rounds rfl) s

theorem decideRoundReceived_fkeeps (s : St) : FKeeps s s.decideRoundReceived :=
  decideRoundReceived_rel FKeeps.pre (fun _ _ _ hg _ => .setRound_of hg (witnessesDecided_rkeeps _ _))
    -- both legs close by `rfl`, so the state in the middle has to be given
    (fun s x i _ hg _ => FKeeps.pre.trans (b := s.update x fun e => { e with rr := some i }) (.of_rounds rfl)
      (.setRound_of hg (.of_created rfl)))
    (fun _ _ => .of_rounds rfl) s

theorem insertAndRun_fkeeps (s : St) (e : Ev) : FKeeps s (s.insertAndRun e).1 :=
  insertAndRun_rel FKeeps.pre fun _ => FKeeps.pre.trans (insert_fkeeps s e)
    (runConsensus_rel FKeeps.pre (divideRounds_fkeeps _) (decideFame_fkeeps _) (decideRoundReceived_fkeeps _)
      fun _ _ h => .of_rounds (tables_eq (processOne_tables h)).2.1)

theorem runAll_fkeeps (s : St) (es : List Ev) : FKeeps s (runAll s es) := runAll_rel FKeeps.pre insertAndRun_fkeeps s es

end Babble.HG
