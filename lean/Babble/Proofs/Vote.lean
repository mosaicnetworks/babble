import Babble.Generated
import Mathlib.Data.Finset.Card
import Mathlib.Data.Fintype.Card

/-!
Abstract vote core of Babble's DecideFame for one candidate `x`, static validator set.

`W` : type of witnesses (of all rounds after the candidate's); `lvl w` = round(w) - round(x) - 1
(`0` = first voting round). `creator` injective inside a level. `S y` = witnesses of the previous
level strongly seen by `y`, with at least `sm` elements when `0 < lvl y`.

`voteAtG` / `decidesAtG` are the tally rule of `DecideFame` written with the comparison operators,
the supermajority formula and the coin-round period of `Babble.Gen` (regenerated from the Go
sources): ties vote `true` (`cmpFameTie`), a vote decides in a normal round when the tally reaches
the supermajority (`cmpFameNormal`), in a coin round the tally is kept only when it reaches the
supermajority (`cmpFameCoin`), otherwise the coin (middle bit of the voter's hash) is used; level
`d` is voting round `diff = d + 1`, coin rounds are those with `diff % coinRoundFreq = 0`
(`cmpCoinTest`).  `voteAt` / `decidesAt` are the same rule in plain arithmetic; `voteAtG_eq` and
`decidesAtG_eq` connect the two, so a changed operator or formula in the Go source breaks them. -/
namespace Babble.Vote
open Babble

variable {W : Type} [DecidableEq W]

structure VoteSys (W : Type) [DecidableEq W] where
  n : Nat
  lvl : W → Nat
  creator : W → Fin n
  creator_inj : ∀ a b, lvl a = lvl b → creator a = creator b → a = b
  S : W → Finset W
  S_lvl : ∀ y w, w ∈ S y → lvl w + 1 = lvl y
  S_cardG : ∀ y, 0 < lvl y → Gen.superMajority n ≤ (S y).card
  sees : W → Bool          -- first-round vote
  coin : W → Bool

def normalLvl (d : Nat) : Bool := Gen.cmpCoinTest.evalN ((d + 1) % Gen.coinRoundFreq) 0
theorem normal_one : normalLvl 1 = true := by decide

namespace VoteSys
variable (V : VoteSys W)

def sm : Nat := 2 * V.n / 3 + 1
theorem gen_sm : Gen.superMajority V.n = V.sm := rfl
theorem S_card (y : W) (h : 0 < V.lvl y) : 2 * V.n / 3 + 1 ≤ (V.S y).card := V.S_cardG y h

def yays (vote : W → Bool) (y : W) : Nat := ((V.S y).filter (fun w => vote w = true)).card
def nays (vote : W → Bool) (y : W) : Nat := ((V.S y).filter (fun w => vote w = false)).card

/-- for a witness of a level other than `d` the value is irrelevant -/
def voteAt : Nat → W → Bool
  | 0 => V.sees
  | d+1 => fun y =>
      let ya := V.yays (voteAt d) y
      let na := V.nays (voteAt d) y
      let v := decide (ya ≥ na)
      let t := if ya ≥ na then ya else na
      if normalLvl (d+1) then v else (if t ≥ V.sm then v else V.coin y)

def decidesAt (d : Nat) (y : W) : Option Bool :=
  let ya := V.yays (V.voteAt d) y
  let na := V.nays (V.voteAt d) y
  let v := decide (ya ≥ na)
  let t := if ya ≥ na then ya else na
  if normalLvl (d+1) ∧ t ≥ V.sm then some v else none

def allVote (d : Nat) (b : Bool) : Prop := ∀ y, V.lvl y = d → V.voteAt d y = b

/-- the facts about the strongly seen set that the argument needs are stated for `cnt`, symmetrically in `b` -/
def cnt (vote : W → Bool) (y : W) (b : Bool) : Nat := ((V.S y).filter (fun w => vote w = b)).card
lemma yays_eq_cnt (vote : W → Bool) (y : W) : V.yays vote y = V.cnt vote y true := rfl
lemma nays_eq_cnt (vote : W → Bool) (y : W) : V.nays vote y = V.cnt vote y false := rfl

lemma cnt_add (vote : W → Bool) (y : W) (b : Bool) : V.cnt vote y b + V.cnt vote y (!b) = (V.S y).card := by
  rw [cnt, cnt, ← Finset.card_filter_add_card_filter_not (s := V.S y) (fun w => vote w = b)]
  congr 2
  exact Finset.filter_congr fun w _ => Bool.eq_not

lemma yays_add_nays (vote : W → Bool) (y : W) : V.yays vote y + V.nays vote y = (V.S y).card := by
  rw [yays_eq_cnt, nays_eq_cnt]
  exact V.cnt_add vote y true

lemma level_card_le (d : Nat) (T : Finset W) (hT : ∀ w ∈ T, V.lvl w = d) : T.card ≤ V.n := by
  have := Finset.card_le_card_of_injOn V.creator (s := T) (t := Finset.univ) (fun a _ => Finset.mem_univ _)
    (fun a ha b hb hab => V.creator_inj a b (by rw [hT a ha, hT b hb]) hab)
  rwa [Finset.card_univ, Fintype.card_fin] at this

/-- `P` is what has to be kept on the way down (in `DagViews`: being held by a view). -/
lemma exists_lvl_one {P : W → Prop} (hP : ∀ y, P y → ∀ w ∈ V.S y, P w) (d : Nat) :
    ∀ y, V.lvl y = d + 1 → P y → ∃ z, P z ∧ V.lvl z = 1 := by
  induction d with
  | zero => exact fun y hl hy => ⟨y, hy, hl⟩
  | succ d ih =>
    intro y hl hy
    obtain ⟨w, hw⟩ := Finset.card_pos.mp (Nat.lt_of_lt_of_le (Nat.succ_pos _) (V.S_card y (hl ▸ Nat.succ_pos _)))
    exact ih w (Nat.succ_injective ((V.S_lvl y w hw).trans hl)) (hP y hy w hw)

/-- quorum intersection: those who vote `!b` are outside the quorum, and a level holds at most `n`
    witnesses -/
lemma cnt_of_quorum (vote : W → Bool) (d : Nat) (b : Bool)
    (Q : Finset W) (hQl : ∀ w ∈ Q, V.lvl w = d) (hQv : ∀ w ∈ Q, vote w = b) (hQc : V.sm ≤ Q.card)
    (y : W) (hy : V.lvl y = d + 1) : V.cnt vote y (!b) < V.cnt vote y b := by
  have hdisj : Disjoint ((V.S y).filter (fun w => vote w = !b)) Q :=
    Finset.disjoint_left.mpr fun w hw hwQ => by
      have := (Finset.mem_filter.mp hw).2; rw [hQv w hwQ] at this; cases b <;> cases this
  have hle : V.cnt vote y (!b) + Q.card ≤ V.n := by
    rw [cnt, ← Finset.card_union_of_disjoint hdisj]
    exact V.level_card_le d _ fun w hw => (Finset.mem_union.mp hw).elim
      (fun h => Nat.succ_injective ((V.S_lvl y w (Finset.mem_filter.mp h).1).trans hy)) (hQl w)
  have hadd := V.cnt_add vote y b
  have hS := V.S_card y (hy ▸ Nat.succ_pos d)
  have hsm : V.sm = 2 * V.n / 3 + 1 := rfl
  omega

/-- a supermajority is a strict majority: a strongly seen set lies in one level, which holds at most
    `n` witnesses -/
lemma majority_of_sm {vote : W → Bool} {y : W} {b : Bool} (h : V.sm ≤ V.cnt vote y b) :
    V.cnt vote y (!b) < V.cnt vote y b := by
  have hle := V.level_card_le (V.lvl y - 1) (V.S y) fun w hw => by have := V.S_lvl y w hw; omega
  have hadd := V.cnt_add vote y b
  have hsm : V.sm = 2 * V.n / 3 + 1 := rfl
  omega

lemma cnt_of_unanimous (d : Nat) (b : Bool) (h : V.allVote d b) (y : W) (hy : V.lvl y = d + 1) :
    V.sm ≤ V.cnt (V.voteAt d) y b := by
  rw [cnt, Finset.filter_true_of_mem fun w hw => h w (Nat.succ_injective ((V.S_lvl y w hw).trans hy))]
  exact V.S_card y (hy ▸ Nat.succ_pos d)

/-- Ties lean to `true`: this is the only place where the two values are not treated alike -/
lemma top_eq (vote : W → Bool) (y : W) :
    (if V.yays vote y ≥ V.nays vote y then V.yays vote y else V.nays vote y) =
      V.cnt vote y (decide (V.yays vote y ≥ V.nays vote y)) := by
  by_cases h : V.yays vote y ≥ V.nays vote y
  · rw [if_pos h, decide_eq_true h]; rfl
  · rw [if_neg h, decide_eq_false h]; rfl

lemma lean_of_majority {vote : W → Bool} {y : W} {b : Bool} (h : V.cnt vote y (!b) < V.cnt vote y b) :
    decide (V.yays vote y ≥ V.nays vote y) = b := by
  rw [yays_eq_cnt, nays_eq_cnt]
  cases b
  · exact decide_eq_false (Nat.not_le.mpr h)
  · exact decide_eq_true (Nat.le_of_lt h)

lemma voteAt_of_majority {d : Nat} {y : W} {b : Bool}
    (h : V.cnt (V.voteAt d) y (!b) < V.cnt (V.voteAt d) y b)
    (hn : normalLvl (d+1) = true ∨ V.sm ≤ V.cnt (V.voteAt d) y b) : V.voteAt (d+1) y = b := by
  -- `voteAt (d+1) y` with its `let`s unfolded
  show (if normalLvl (d+1) = true then _ else if _ ≥ V.sm then _ else _) = b
  rw [V.top_eq, V.lean_of_majority h]
  rcases hn with hn | hn
  · rw [if_pos hn]
  · rw [if_pos hn, ite_self]

theorem decidesAt_eq_some_iff {d : Nat} {y : W} {b : Bool} :
    V.decidesAt d y = some b ↔ normalLvl (d+1) = true ∧ V.sm ≤ V.cnt (V.voteAt d) y b := by
  show (if normalLvl (d+1) = true ∧ _ ≥ V.sm then some _ else none) = some b ↔ _
  rw [V.top_eq]
  constructor
  · intro hd
    split at hd
    · next hc => exact Option.some.inj hd ▸ hc
    · cases hd
  · rintro ⟨hn, hs⟩
    rw [V.lean_of_majority (V.majority_of_sm hs), if_pos ⟨hn, hs⟩]

lemma unanimity_step (d : Nat) (b : Bool) (h : V.allVote d b) : V.allVote (d+1) b := fun y hy => by
  have hs := V.cnt_of_unanimous d b h y hy
  exact V.voteAt_of_majority (V.majority_of_sm hs) (Or.inr hs)

lemma unanimity_from {d d' : Nat} (hle : d ≤ d') (b : Bool) (h : V.allVote d b) : V.allVote d' b := by
  induction hle with
  | refl => exact h
  | step _ ih => exact V.unanimity_step _ b ih

lemma quorum_normal_step (d : Nat) (b : Bool) (hn : normalLvl (d+1) = true)
    (Q : Finset W) (hQl : ∀ w ∈ Q, V.lvl w = d) (hQv : ∀ w ∈ Q, V.voteAt d w = b) (hQc : V.sm ≤ Q.card) :
    V.allVote (d+1) b := fun y hy =>
  V.voteAt_of_majority (V.cnt_of_quorum (V.voteAt d) d b Q hQl hQv hQc y hy) (Or.inl hn)

/-- the votes `b` that the decider counted are a quorum -/
lemma decision_unanimous (d : Nat) (y : W) (hy : V.lvl y = d + 1) (b : Bool)
    (hd : V.decidesAt d y = some b) : V.allVote (d+1) b := by
  obtain ⟨hn, hs⟩ := V.decidesAt_eq_some_iff.mp hd
  exact V.quorum_normal_step d b hn ((V.S y).filter (fun w => V.voteAt d w = b))
    (fun w hw => Nat.succ_injective ((V.S_lvl y w (Finset.mem_filter.mp hw).1).trans hy))
    (fun w hw => (Finset.mem_filter.mp hw).2) hs

/-- a decider votes what it decides (`decision_unanimous` at the decider itself), and from level
    `d+1` on everybody votes `b` -/
lemma decision_of_unanimous (d d' : Nat) (hle : d ≤ d') (b : Bool) (hu : V.allVote (d+1) b)
    (y' : W) (hy' : V.lvl y' = d' + 1) (b' : Bool) (h' : V.decidesAt d' y' = some b') : b' = b :=
  (V.decision_unanimous d' y' hy' b' h' y' hy').symm.trans (V.unanimity_from (Nat.succ_le_succ hle) b hu y' hy')

theorem decisions_agree (d d' : Nat) (y y' : W) (hy : V.lvl y = d + 1) (hy' : V.lvl y' = d' + 1)
    (b b' : Bool) (h : V.decidesAt d y = some b) (h' : V.decidesAt d' y' = some b') : b = b' := by
  rcases Nat.le_total d d' with hle | hle
  · exact (V.decision_of_unanimous d d' hle b (V.decision_unanimous d y hy b h) y' hy' b' h').symm
  · exact V.decision_of_unanimous d' d hle b' (V.decision_unanimous d' y' hy' b' h') y hy b h

/-- level 1 is a normal round (`normal_one`), so the quorum `T` takes effect there -/
theorem late_witness_never_famous
    (T : Finset W) (hTl : ∀ w ∈ T, V.lvl w = 0) (hTv : ∀ w ∈ T, V.sees w = false) (hTc : V.sm ≤ T.card)
    (d : Nat) (y : W) (hy : V.lvl y = d + 1) (b : Bool) (hd : V.decidesAt d y = some b) : b = false :=
  V.decision_of_unanimous 0 d (Nat.zero_le d) false (V.quorum_normal_step 0 false normal_one T hTl hTv hTc)
    y hy b hd

def voteAtG : Nat → W → Bool
  | 0 => V.sees
  | d+1 => fun y =>
      let ya := V.yays (voteAtG d) y
      let na := V.nays (voteAtG d) y
      let v := Gen.cmpFameTie.evalN ya na
      let t := if v then ya else na
      if normalLvl (d+1) then v else (if Gen.cmpFameCoin.evalN t (Gen.superMajority V.n) then v else V.coin y)

def decidesAtG (d : Nat) (y : W) : Option Bool :=
  let ya := V.yays (V.voteAtG d) y
  let na := V.nays (V.voteAtG d) y
  let v := Gen.cmpFameTie.evalN ya na
  let t := if v then ya else na
  if normalLvl (d+1) ∧ Gen.cmpFameNormal.evalN t (Gen.superMajority V.n) then some v else none

theorem voteAtG_eq (d : Nat) : V.voteAtG d = V.voteAt d := by
  induction d with
  | zero => rfl
  | succ d ih =>
    simp only [voteAtG, voteAt, ih, V.gen_sm, Gen.cmpFameTie, Gen.cmpFameCoin, Cmp.evalN, decide_eq_true_eq]

theorem decidesAtG_eq (d : Nat) (y : W) : V.decidesAtG d y = V.decidesAt d y := by
  simp only [decidesAtG, decidesAt, V.voteAtG_eq, V.gen_sm, Gen.cmpFameTie, Gen.cmpFameNormal, Cmp.evalN,
    decide_eq_true_eq]

end VoteSys
end Babble.Vote
