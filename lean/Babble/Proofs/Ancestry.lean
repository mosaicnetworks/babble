import Babble.Model.Hashgraph
/-! `AdmInv` is the admission invariant of C07, by structural recursion on the insertion history (newest
first); its last clause says that the `lastAncestors` are the ones `initEventCoordinates` computes.  Under
it the comparison the Go `ancestor(x,y)` predicate makes — index arithmetic on `lastAncestors` — is
exactly reachability in the DAG (`anc_iff_la`). -/
namespace Babble.HG

def getL (es : List Ev) (id : String) : Option Ev := es.find? (fun e => e.id == id)
def lastFromL (es : List Ev) (c : Nat) : Option Ev := es.find? (fun e => e.creator == c)
def laGet (l : List (Option Coord)) (p : Nat) : Option Int := (posGet l p).map (·.idx)
def laOf (es : List Ev) (id : String) : List (Option Coord) := ((getL es id).map (·.la)).getD []

def AdmInv : List Ev → Prop
  | [] => True
  | e :: es => AdmInv es ∧ e.id ≠ "" ∧ getL es e.id = none ∧
      (match lastFromL es e.creator with
       | none => e.sp = "" ∧ e.index = 0
       | some l => e.sp = l.id ∧ e.index = l.index + 1) ∧
      (e.op = "" ∨ (getL es e.op).isSome) ∧
      e.la = setAt (mergeLa (laOf es e.sp) (laOf es e.op)) e.creator (some { idx := e.index, id := e.id })

inductive Anc (es : List Ev) : String → String → Prop
  | refl {x : String} : (getL es x).isSome → Anc es x x
  | sp {z b : String} {eb : Ev} : getL es b = some eb → eb.sp ≠ "" → Anc es z eb.sp → Anc es z b
  | op {z b : String} {eb : Ev} : getL es b = some eb → eb.op ≠ "" → Anc es z eb.op → Anc es z b

theorem posGet_nil {α} (q : Nat) : posGet ([] : List (Option α)) q = none := rfl
theorem posGet_cons_zero {α} (x : Option α) (l : List (Option α)) : posGet (x :: l) 0 = x := rfl
theorem posGet_cons_succ {α} (x : Option α) (l : List (Option α)) (q : Nat) :
    posGet (x :: l) (q + 1) = posGet l q := by
  simp [posGet]

theorem posGet_setAt {α} (l : List (Option α)) (p : Nat) (v : Option α) (q : Nat) :
    posGet (setAt l p v) q = if q = p then v else posGet l q := by
  induction l, p, v using setAt.induct generalizing q <;> cases q <;>
    simp [setAt, posGet_nil, posGet_cons_zero, posGet_cons_succ, *]

theorem maxC_none_right (x : Option Coord) : maxC x none = x := by cases x <;> rfl

theorem mergeLa_nil_right (a : List (Option Coord)) : mergeLa a [] = a := by
  cases a <;> rfl

theorem posGet_mergeLa (a b : List (Option Coord)) (p : Nat) :
    posGet (mergeLa a b) p = maxC (posGet a p) (posGet b p) := by
  induction a, b using mergeLa.induct generalizing p <;> cases p <;>
    simp only [mergeLa, posGet_nil, posGet_cons_zero, posGet_cons_succ, maxC_none_right, *] <;> rfl

theorem maxC_eq_or (x y : Option Coord) : maxC x y = x ∨ maxC x y = y := by
  cases x <;> cases y <;> simp only [maxC, true_or, or_true]
  split <;> simp

theorem laGet_mergeLa_cases {a b : List (Option Coord)} {p : Nat} {i : Int} (h : laGet (mergeLa a b) p = some i) :
    laGet a p = some i ∨ laGet b p = some i := by
  unfold laGet at *
  rw [posGet_mergeLa] at h
  rcases maxC_eq_or (posGet a p) (posGet b p) with h' | h'
  · exact Or.inl (h' ▸ h)
  · exact Or.inr (h' ▸ h)

theorem laGet_mergeLa_ge {a b : List (Option Coord)} {p : Nat} {i : Int}
    (h : laGet a p = some i ∨ laGet b p = some i) : ∃ j, laGet (mergeLa a b) p = some j ∧ i ≤ j := by
  unfold laGet at *; rw [posGet_mergeLa]
  revert h
  cases posGet a p <;> cases posGet b p <;> simp only [maxC, Option.map_some, Option.map_none, Option.some.injEq,
    reduceCtorEq, or_false, false_or, false_imp_iff, exists_eq_left']
  · intro h; omega
  · intro h; omega
  · split <;> omega

theorem getL_cons (e : Ev) (es : List Ev) (id : String) :
    getL (e :: es) id = if e.id = id then some e else getL es id := by
  unfold getL
  by_cases h : e.id = id
  · rw [if_pos h, List.find?_cons_of_pos (by simpa using h)]
  · rw [if_neg h, List.find?_cons_of_neg (by simpa using h)]

theorem getL_cons_self (e : Ev) (es : List Ev) : getL (e :: es) e.id = some e :=
  (getL_cons e es e.id).trans (if_pos rfl)

theorem getL_id {es : List Ev} {id : String} {e : Ev} (h : getL es id = some e) : e.id = id := by
  simpa using List.find?_some h

theorem getL_mem {es : List Ev} {id : String} {e : Ev} (h : getL es id = some e) : e ∈ es :=
  List.mem_of_find?_eq_some h

theorem lastFromL_cons (e : Ev) (es : List Ev) (c : Nat) :
    lastFromL (e :: es) c = if e.creator = c then some e else lastFromL es c := by
  unfold lastFromL
  by_cases h : e.creator = c
  · rw [if_pos h, List.find?_cons_of_pos (by simpa using h)]
  · rw [if_neg h, List.find?_cons_of_neg (by simpa using h)]

theorem lastFromL_creator {es : List Ev} {c : Nat} {l : Ev} (h : lastFromL es c = some l) : l.creator = c := by
  simpa using List.find?_some h

theorem lastFromL_mem {es : List Ev} {c : Nat} {l : Ev} (h : lastFromL es c = some l) : l ∈ es :=
  List.mem_of_find?_eq_some h

theorem laGet_laOf {es : List Ev} {id : String} {p : Nat} {i : Int} :
    laGet (laOf es id) p = some i ↔ ∃ l, getL es id = some l ∧ laGet l.la p = some i := by
  unfold laOf
  cases getL es id with
  | none => exact ⟨fun h => (nomatch h), fun ⟨_, h, _⟩ => (nomatch h)⟩
  | some l => exact ⟨fun h => ⟨l, rfl, h⟩, fun ⟨_, h, h'⟩ => Option.some.inj h ▸ h'⟩

theorem AdmInv.head_id_ne {e : Ev} {es : List Ev} (hI : AdmInv (e :: es)) : e.id ≠ "" := hI.2.1
theorem AdmInv.head_fresh {e : Ev} {es : List Ev} (hI : AdmInv (e :: es)) : getL es e.id = none := hI.2.2.1
theorem AdmInv.head_op {e : Ev} {es : List Ev} (hI : AdmInv (e :: es)) : e.op = "" ∨ (getL es e.op).isSome :=
  hI.2.2.2.2.1

theorem AdmInv.head_next {e : Ev} {es : List Ev} (hI : AdmInv (e :: es)) {l : Ev}
    (hl : lastFromL es e.creator = some l) : e.sp = l.id ∧ e.index = l.index + 1 := by
  have h := hI.2.2.2.1
  rwa [hl] at h

theorem AdmInv.head_laGet {e : Ev} {es : List Ev} (hI : AdmInv (e :: es)) (p : Nat) :
    laGet e.la p = if p = e.creator then some e.index else laGet (mergeLa (laOf es e.sp) (laOf es e.op)) p := by
  rw [hI.2.2.2.2.2]
  unfold laGet
  rw [posGet_setAt]
  split <;> rfl

theorem getL_empty {es : List Ev} (hI : AdmInv es) : getL es "" = none := by
  induction es with
  | nil => rfl
  | cons e es ih => rw [getL_cons, if_neg hI.head_id_ne, ih hI.1]

theorem getL_ne_empty {es : List Ev} (hI : AdmInv es) {b : String} {eb : Ev} (h : getL es b = some eb) : b ≠ "" :=
  fun h0 => by rw [h0, getL_empty hI] at h; cases h

theorem getL_cons_of_isSome {e : Ev} {es : List Ev} (hI : AdmInv (e :: es)) {b : String}
    (h : (getL es b).isSome) : getL (e :: es) b = getL es b := by
  rw [getL_cons, if_neg]
  intro heq
  rw [← heq, hI.head_fresh] at h
  cases h

theorem getL_cons_old {e : Ev} {es : List Ev} (hI : AdmInv (e :: es)) {b : String} {eb : Ev}
    (h : getL es b = some eb) : getL (e :: es) b = some eb :=
  (getL_cons_of_isSome hI (Option.isSome_of_eq_some h)).trans h

theorem getL_isSome_cons {e : Ev} {es : List Ev} (hI : AdmInv (e :: es)) {b : String}
    (h : (getL es b).isSome) : (getL (e :: es) b).isSome :=
  (getL_cons_of_isSome hI h).symm ▸ h

theorem AdmInv.mem_induction {motive : ∀ es, AdmInv es → ∀ z, z ∈ es → Prop}
    (head : ∀ {e es} (hI : AdmInv (e :: es)), (∀ {z} (hz : z ∈ es), motive es hI.1 z hz) →
      motive (e :: es) hI e List.mem_cons_self)
    (older : ∀ {e es z} (hI : AdmInv (e :: es)) (hz : z ∈ es), motive es hI.1 z hz →
      motive (e :: es) hI z (List.mem_cons_of_mem e hz))
    {es : List Ev} (hI : AdmInv es) {z : Ev} (hz : z ∈ es) : motive es hI z hz := by
  induction es generalizing z with
  | nil => cases hz
  | cons e es ih =>
    rcases List.mem_cons.mp hz with rfl | hz'
    · exact head hI (ih hI.1)
    · exact older hI hz' (ih hI.1 hz')

theorem getL_of_mem {es : List Ev} (hI : AdmInv es) {z : Ev} (hz : z ∈ es) : getL es z.id = some z := by
  induction hI, hz using AdmInv.mem_induction with
  | head _ _ => exact getL_cons_self _ _
  | older hI _ ih => exact getL_cons_old hI ih

theorem AdmInv.head_sp {e : Ev} {es : List Ev} (hI : AdmInv (e :: es)) :
    (e.sp = "" ∧ e.index = 0) ∨ (∃ l, getL es e.sp = some l ∧ l.creator = e.creator ∧ e.index = l.index + 1) := by
  cases hl : lastFromL es e.creator with
  | none =>
    have h := hI.2.2.2.1
    rw [hl] at h
    exact Or.inl h
  | some l =>
    obtain ⟨hsp, hidx⟩ := hI.head_next hl
    exact Or.inr ⟨l, hsp ▸ getL_of_mem hI.1 (lastFromL_mem hl), lastFromL_creator hl, hidx⟩

theorem index_nonneg {es : List Ev} (hI : AdmInv es) {z : Ev} (hz : z ∈ es) : 0 ≤ z.index := by
  induction hI, hz using AdmInv.mem_induction with
  | head hI ih =>
    rcases hI.head_sp with ⟨_, h0⟩ | ⟨l, hl, _, h1⟩
    · exact Int.le_of_eq h0.symm
    · exact h1 ▸ Int.le_add_one (ih (getL_mem hl))
  | older _ _ ih => exact ih

theorem index_le_last {es : List Ev} (hI : AdmInv es) {z : Ev} (hz : z ∈ es) :
    ∃ l, lastFromL es z.creator = some l ∧ z.index ≤ l.index := by
  induction hI, hz using AdmInv.mem_induction with
  | @head e es _ _ => exact ⟨e, (lastFromL_cons e es _).trans (if_pos rfl), Int.le_refl _⟩
  | @older e es z hI _ ih =>
    obtain ⟨l, hl, hle⟩ := ih
    rw [lastFromL_cons]
    by_cases hc : e.creator = z.creator
    · -- `e` goes right above `l`
      exact ⟨e, if_pos hc, (hI.head_next (hc ▸ hl)).2 ▸ Int.le_add_one hle⟩
    · exact ⟨l, (if_neg hc).trans hl, hle⟩

theorem AdmInv.head_newer {e : Ev} {es : List Ev} (hI : AdmInv (e :: es)) {z : Ev} (hz : z ∈ es)
    (hc : z.creator = e.creator) : z.index < e.index := by
  obtain ⟨l, hl, hle⟩ := index_le_last hI.1 hz
  exact (hI.head_next (hc ▸ hl)).2 ▸ Int.lt_add_one_of_le hle

theorem unique_index {es : List Ev} (hI : AdmInv es) {a b : Ev} (ha : a ∈ es) (hb : b ∈ es)
    (hc : a.creator = b.creator) (hi : a.index = b.index) : a = b := by
  induction es with
  | nil => cases ha
  | cons e es ih =>
    rcases List.mem_cons.mp ha with rfl | ha' <;> rcases List.mem_cons.mp hb with rfl | hb'
    · rfl
    · exact absurd hi.symm (Int.ne_of_lt (hI.head_newer hb' hc.symm))
    · exact absurd hi (Int.ne_of_lt (hI.head_newer ha' hc))
    · exact ih hI.1 ha' hb'

theorem sp_spec {es : List Ev} (hI : AdmInv es) {z : Ev} (hz : z ∈ es) :
    (z.sp = "" ∧ z.index = 0) ∨ (∃ l, getL es z.sp = some l ∧ l.creator = z.creator ∧ z.index = l.index + 1) := by
  induction hI, hz using AdmInv.mem_induction with
  | head hI _ => exact hI.head_sp.imp_right fun ⟨l, hl, h⟩ => ⟨l, getL_cons_old hI hl, h⟩
  | older hI _ ih => exact ih.imp_right fun ⟨l, hl, h⟩ => ⟨l, getL_cons_old hI hl, h⟩

theorem AdmInv.head_parent {e : Ev} {es : List Ev} (hI : AdmInv (e :: es)) {p : String} (hne : p ≠ "")
    (hp : p = e.sp ∨ p = e.op) : (getL es p).isSome := by
  rcases hp with rfl | rfl
  · rcases hI.head_sp with ⟨h0, _⟩ | ⟨l, hl, _⟩
    · exact absurd h0 hne
    · exact Option.isSome_of_eq_some hl
  · exact hI.head_op.resolve_left hne

theorem parent_present {es : List Ev} (hI : AdmInv es) {z : Ev} (hz : z ∈ es) {p : String} (hne : p ≠ "")
    (hp : p = z.sp ∨ p = z.op) : (getL es p).isSome := by
  induction hI, hz using AdmInv.mem_induction with
  | head hI _ => exact getL_isSome_cons hI (hI.head_parent hne hp)
  | older hI _ ih => exact getL_isSome_cons hI (ih hp)

theorem Anc.parent {es : List Ev} {z b p : String} {eb : Ev} (hg : getL es b = some eb) (hne : p ≠ "")
    (hp : p = eb.sp ∨ p = eb.op) (h : Anc es z p) : Anc es z b := by
  rcases hp with rfl | rfl
  · exact Anc.sp hg hne h
  · exact Anc.op hg hne h

theorem Anc.parent_induction {es : List Ev} {z : String} {motive : ∀ b, Anc es z b → Prop}
    (refl : ∀ hz, motive z (Anc.refl hz))
    (parent : ∀ {b p : String} {eb : Ev} (hg : getL es b = some eb) (hne : p ≠ "") (hp : p = eb.sp ∨ p = eb.op)
      (h : Anc es z p), motive p h → motive b (Anc.parent hg hne hp h)) {b : String} (h : Anc es z b) : motive b h := by
  induction h with
  | refl hx => exact refl hx
  | sp hg hne ha ih => exact parent hg hne (Or.inl rfl) ha ih
  | op hg hne ha ih => exact parent hg hne (Or.inr rfl) ha ih

theorem Anc.trans {es : List Ev} {a b c : String} (h1 : Anc es a b) (h2 : Anc es b c) : Anc es a c := by
  induction h2 using Anc.parent_induction with
  | refl _ => exact h1
  | parent hg hne hp _ ih => exact Anc.parent hg hne hp ih

theorem Anc.weaken {e : Ev} {es : List Ev} (hI : AdmInv (e :: es)) {z b : String} (h : Anc es z b) :
    Anc (e :: es) z b := by
  induction h using Anc.parent_induction with
  | refl hx => exact Anc.refl (getL_isSome_cons hI hx)
  | parent hg hne hp _ ih => exact Anc.parent (getL_cons_old hI hg) hne hp ih

theorem chain {es : List Ev} (hI : AdmInv es) {y z : Ev} (hy : y ∈ es) (hz : z ∈ es)
    (hc : y.creator = z.creator) (hle : y.index ≤ z.index) : Anc es y.id z.id := by
  -- down the self-parent links of `z`, by induction on the distance
  obtain ⟨k, hk⟩ := Int.le.dest hle
  clear hle
  induction k generalizing z with
  | zero =>
    cases unique_index hI hy hz hc ((Int.add_zero _).symm.trans hk)
    exact Anc.refl (Option.isSome_of_eq_some (getL_of_mem hI hy))
  | succ k ih =>
    rcases sp_spec hI hz with ⟨_, h0⟩ | ⟨l, hl, hlc, hli⟩
    · have := index_nonneg hI hy
      omega
    · have hanc := ih (getL_mem hl) (hc.trans hlc.symm) (by omega)
      rw [getL_id hl] at hanc
      exact Anc.sp (getL_of_mem hI hz) (getL_ne_empty hI hl) hanc

theorem la_sound : ∀ {es : List Ev}, AdmInv es → ∀ {x : Ev}, x ∈ es → ∀ {p : Nat} {i : Int},
    laGet x.la p = some i → ∃ z, z ∈ es ∧ Anc es z.id x.id ∧ z.creator = p ∧ z.index = i := by
  intro es hI x hx p i hla
  induction hI, hx using AdmInv.mem_induction with
  | @head x es hI ih =>
    have hgx := getL_cons_self x es
    rw [hI.head_laGet] at hla
    split at hla
    · -- the event's own entry
      next hp => exact ⟨x, List.mem_cons_self, Anc.refl (Option.isSome_of_eq_some hgx), hp.symm, Option.some.inj hla⟩
    · -- an entry taken over from a parent `l`: the induction hypothesis for `l`, one step up
      obtain ⟨q, hq, h⟩ : ∃ q, (q = x.sp ∨ q = x.op) ∧ laGet (laOf es q) p = some i :=
        (laGet_mergeLa_cases hla).elim (fun h => ⟨_, Or.inl rfl, h⟩) fun h => ⟨_, Or.inr rfl, h⟩
      obtain ⟨l, hl, hll⟩ := laGet_laOf.mp h
      obtain ⟨z, hz, hanc, hc, hi⟩ := ih (getL_mem hl) hll
      rw [getL_id hl] at hanc
      exact ⟨z, List.mem_cons_of_mem _ hz, Anc.parent hgx (getL_ne_empty hI.1 hl) hq (hanc.weaken hI), hc, hi⟩
  | older hI _ ih => exact (ih hla).imp fun z ⟨hz, hanc, h⟩ => ⟨List.mem_cons_of_mem _ hz, hanc.weaken hI, h⟩

theorem la_self {es : List Ev} (hI : AdmInv es) {x : Ev} (hx : x ∈ es) : laGet x.la x.creator = some x.index := by
  induction hI, hx using AdmInv.mem_induction with
  | head hI _ => exact (hI.head_laGet _).trans (if_pos rfl)
  | older _ _ ih => exact ih

theorem la_parent_le {es : List Ev} (hI : AdmInv es) {x : Ev} (hx : x ∈ es) {q : String} {l : Ev}
    (hq : q = x.sp ∨ q = x.op) (hl : getL es q = some l) {c : Nat} {i : Int} (hi : laGet l.la c = some i) :
    ∃ j, laGet x.la c = some j ∧ i ≤ j := by
  induction hI, hx using AdmInv.mem_induction with
  | @head x es hI _ =>
    rw [getL_cons_of_isSome hI (hI.head_parent (getL_ne_empty hI hl) hq)] at hl
    rw [hI.head_laGet]
    by_cases hc : c = x.creator
    · -- the parent's entry for `x`'s creator is the index of an older event of that creator
      obtain ⟨z, hz, _, hzc, hzi⟩ := la_sound hI.1 (getL_mem hl) hi
      exact ⟨x.index, if_pos hc, hzi ▸ Int.le_of_lt (hI.head_newer hz (hzc.trans hc))⟩
    · rw [if_neg hc]
      have hi' := laGet_laOf.mpr ⟨l, hl, hi⟩
      exact laGet_mergeLa_ge (hq.elim (fun h => Or.inl (h ▸ hi')) fun h => Or.inr (h ▸ hi'))
  | older hI hx ih =>
    rw [getL_cons_of_isSome hI (parent_present hI.1 hx (getL_ne_empty hI hl) hq)] at hl
    exact ih hq hl

theorem la_complete : ∀ {es : List Ev}, AdmInv es → ∀ {z x : Ev}, z ∈ es → x ∈ es → Anc es z.id x.id →
    ∃ i, laGet x.la z.creator = some i ∧ z.index ≤ i := by
  intro es hI z x hz hx hanc
  -- along the path from `z` up to `x`
  generalize hb : x.id = b at hanc
  induction hanc using Anc.parent_induction generalizing x with
  | refl _ =>
    cases Option.some.inj ((getL_of_mem hI hz).symm.trans (hb ▸ getL_of_mem hI hx))
    exact ⟨z.index, la_self hI hz, Int.le_refl _⟩
  | parent hg hne hq _ ih =>
    cases Option.some.inj ((getL_of_mem hI hx).symm.trans (hb ▸ hg))
    obtain ⟨l, hl⟩ := Option.isSome_iff_exists.mp (parent_present hI hx hne hq)
    obtain ⟨i, hi, hle⟩ := ih (getL_mem hl) (getL_id hl)
    obtain ⟨j, hj, hij⟩ := la_parent_le hI hx hq hl hi
    exact ⟨j, hj, Int.le_trans hle hij⟩

theorem anc_iff_la {es : List Ev} (hI : AdmInv es) {x y : Ev} (hx : x ∈ es) (hy : y ∈ es) :
    Anc es y.id x.id ↔ ∃ i, laGet x.la y.creator = some i ∧ y.index ≤ i := by
  refine ⟨la_complete hI hy hx, fun ⟨i, hi, hle⟩ => ?_⟩
  -- the entry is the index of an ancestor `z` of `x` by `y`'s creator; `y` is below `z` on the chain
  obtain ⟨z, hz, hanc, hc, hzi⟩ := la_sound hI hx hi
  exact (chain hI hy hz hc.symm (hzi ▸ hle)).trans hanc

end Babble.HG
