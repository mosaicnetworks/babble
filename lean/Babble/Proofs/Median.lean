import Babble.Model.Median
import Babble.Proofs.ListFacts
/-! Lemmas about sorted lists and counting for C18 (`sorted_congr` also serves C03). -/
namespace Babble.Median

theorem sorted_pairwise (l : List Int) : (sorted l).Pairwise (· ≤ ·) :=
  (List.pairwise_mergeSort (le := fun a b => decide (a ≤ b))
    (fun _ _ _ h1 h2 => decide_eq_true (Int.le_trans (of_decide_eq_true h1) (of_decide_eq_true h2)))
    (fun a b => by simpa using Int.le_total a b) l).imp of_decide_eq_true

theorem sorted_perm (l : List Int) : (sorted l).Perm l := List.mergeSort_perm _ _

theorem sorted_congr {l₁ l₂ : List Int} (hp : l₁.Perm l₂) : sorted l₁ = sorted l₂ :=
  List.Perm.eq_of_pairwise (le := (· ≤ ·)) (fun _ _ _ _ h1 h2 => Int.le_antisymm h1 h2) (sorted_pairwise l₁)
    (sorted_pairwise l₂) ((sorted_perm l₁).trans (hp.trans (sorted_perm l₂).symm))

theorem sorted_length (l : List Int) : (sorted l).length = l.length := List.length_mergeSort l

def outside (lo hi : Int) (x : Int) : Bool := decide (x < lo) || decide (hi < x)

theorem outside_iff {lo hi x : Int} : outside lo hi x = true ↔ x < lo ∨ hi < x := by
  rw [outside, Bool.or_eq_true, decide_eq_true_eq, decide_eq_true_eq]

theorem middle_inside {s : List Int} (hs : s.Pairwise (· ≤ ·)) (lo hi : Int) (k : Nat)
    (hk1 : s.countP (outside lo hi) ≤ k) (hk2 : k + s.countP (outside lo hi) < s.length) :
    lo ≤ s.getD k 0 ∧ s.getD k 0 ≤ hi := by
  have hk : k < s.length := Nat.lt_of_le_of_lt (Nat.le_add_right ..) hk2
  rw [← List.getElem_eq_getD (h := hk)]
  refine ⟨Int.not_lt.mp fun hc => ?_, Int.not_lt.mp fun hc => ?_⟩
  · -- the `k + 1` elements up to position `k` are all below `lo`
    have := le_countP_of_take (outside lo hi) s (k + 1) hk fun a ha => by
      obtain ⟨i, hi', rfl⟩ := List.mem_take_iff_getElem.mp ha
      have := getElem_mono_of_pairwise hs (i := i) (j := k) (by omega) hk
      exact outside_iff.mpr (.inl (Int.lt_of_le_of_lt this hc))
    exact Nat.not_succ_le_self k (Nat.le_trans this hk1)
  · -- the `n - k` elements from position `k` on are all above `hi`
    have := le_countP_of_drop (outside lo hi) s k fun a ha => by
      obtain ⟨i, hi', rfl⟩ := List.mem_drop_iff_getElem.mp ha
      have := getElem_mono_of_pairwise hs (Nat.le_add_right k i) (by omega)
      exact outside_iff.mpr (.inr (Int.lt_of_lt_of_le hc this))
    exact Nat.not_le_of_lt hk2 this

/-- the positions `median64` reads: `n / 2`, and `n / 2 - 1` for even `n` -/
theorem central_inside {s : List Int} (hs : s.Pairwise (· ≤ ·)) (lo hi : Int)
    (h : 2 * s.countP (outside lo hi) < s.length) :
    s.length ≠ 0 ∧ (lo ≤ s.getD (s.length / 2) 0 ∧ s.getD (s.length / 2) 0 ≤ hi) ∧
    (s.length % 2 = 0 → lo ≤ s.getD (s.length / 2 - 1) 0 ∧ s.getD (s.length / 2 - 1) 0 ≤ hi) :=
  ⟨Nat.ne_zero_of_lt h, middle_inside hs lo hi _ (by omega) (by omega),
    fun he => middle_inside hs lo hi _ (by omega) (by omega)⟩

theorem wrap64_id (x : Int) (h : inInt64 x) : wrap64 x = x := by
  unfold wrap64 inInt64 two63 two64 at *
  omega

theorem wrap64_add_id (a b lo hi : Int) (hlo : -(two63 / 2) ≤ lo) (hhi : hi < two63 / 2)
    (ha : lo ≤ a ∧ a ≤ hi) (hb : lo ≤ b ∧ b ≤ hi) : wrap64 (a + b) = a + b :=
  wrap64_id _ (by unfold inInt64 two63 at *; omega)

theorem tdiv2_between (a b lo hi : Int) (ha : lo ≤ a ∧ a ≤ hi) (hb : lo ≤ b ∧ b ≤ hi) :
    lo ≤ (a + b).tdiv 2 ∧ (a + b).tdiv 2 ≤ hi := by
  have e (x : Int) : (x + x).tdiv 2 = x := by rw [← Int.two_mul, Int.mul_tdiv_cancel_left _ (by decide)]
  exact ⟨e lo ▸ Int.tdiv_le_tdiv (by decide) (Int.add_le_add ha.1 hb.1),
    e hi ▸ Int.tdiv_le_tdiv (by decide) (Int.add_le_add ha.2 hb.2)⟩

end Babble.Median
