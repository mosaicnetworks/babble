import Babble.Model.Hashgraph
/-! The frame order: events of one round received sorted by (Lamport timestamp, signature key). -/
namespace Babble.HG

theorem frameLe_iff (a b : Ev) : frameLe a b = true ↔
    a.lamport.getD 0 < b.lamport.getD 0 ∨ (a.lamport.getD 0 = b.lamport.getD 0 ∧ a.key ≤ b.key) := by
  unfold frameLe
  by_cases h : a.lamport.getD 0 = b.lamport.getD 0
  · simp [h]
  · simp [h]

theorem frameLe_total (a b : Ev) : (frameLe a b || frameLe b a) = true := by
  rw [Bool.or_eq_true, frameLe_iff, frameLe_iff]; omega

theorem frameLe_trans (a b c : Ev) (h1 : frameLe a b = true) (h2 : frameLe b c = true) : frameLe a c = true := by
  rw [frameLe_iff] at *; omega

theorem getFrame_sorted (s : St) (r : Int) (ri : RoundInfo) :
    (s.getFrame r ri).2.Pairwise (fun a b => frameLe a b = true) ∧
    (s.getFrame r ri).2.Perm (ri.received.filterMap s.get) :=
  ⟨List.pairwise_mergeSort (le := frameLe) frameLe_trans frameLe_total _, List.mergeSort_perm _ _⟩

theorem sorted_lamport_order (l : List Ev) (hs : l.Pairwise (fun a b => frameLe a b = true))
    (i j : Nat) (hi : i < l.length) (hj : j < l.length)
    (hlt : (l[i]).lamport.getD 0 < (l[j]).lamport.getD 0) : i < j := by
  apply Decidable.byContradiction
  intro hn
  rcases Nat.eq_or_lt_of_le (Nat.le_of_not_lt hn) with heq | hlt'
  · subst heq; omega
  · have := (List.pairwise_iff_getElem.mp hs) j i hj hi hlt'
    rw [frameLe_iff] at this; omega

/-- `hkey`: signature sort keys are distinct for distinct events (checked per trace by the harness). -/
theorem frame_order_canonical (l₁ l₂ : List Ev) (hp : l₁.Perm l₂)
    (hkey : ∀ a b, a ∈ l₁ → b ∈ l₁ → a.lamport.getD 0 = b.lamport.getD 0 → a.key = b.key → a = b) :
    l₁.mergeSort frameLe = l₂.mergeSort frameLe := by
  apply List.Perm.eq_of_pairwise (le := fun a b => frameLe a b = true)
  · intro a b ha hb h1 h2
    rw [frameLe_iff] at h1 h2
    exact hkey a b (List.mem_mergeSort.mp ha) (hp.symm.subset (List.mem_mergeSort.mp hb)) (by omega) (by omega)
  · exact List.pairwise_mergeSort (le := frameLe) frameLe_trans frameLe_total _
  · exact List.pairwise_mergeSort (le := frameLe) frameLe_trans frameLe_total _
  · exact (List.mergeSort_perm _ _).trans (hp.trans (List.mergeSort_perm _ _).symm)
end Babble.HG
