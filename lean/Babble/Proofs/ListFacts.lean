/-! Facts about lists and integers that mention no model.  "Append unless present" is the body of
    `FF.insertNew` and `Quorum.withNewPeer` and, on the field `sigs`, of `SigPool.addSig`, so
    `mem_snoc_unless` and `nodup_snoc_unless` apply to them as they stand. -/
namespace Babble

theorem mem_snoc_unless {α : Type} [BEq α] [LawfulBEq α] (l : List α) (x y : α) :
    y ∈ (if l.contains x then l else l ++ [x]) ↔ y ∈ l ∨ y = x := by
  split
  · rename_i hc
    exact ⟨.inl, fun h => h.elim id fun e => e ▸ List.contains_iff_mem.mp hc⟩
  · rw [List.mem_append, List.mem_singleton]

theorem nodup_snoc {α : Type} {l : List α} {x : α} (h : l.Nodup) (hx : x ∉ l) : (l ++ [x]).Nodup :=
  List.nodup_append.mpr ⟨h, List.pairwise_singleton _ x, fun _ ha _ hb e => hx (List.mem_singleton.mp hb ▸ e ▸ ha)⟩

theorem nodup_snoc_unless {α : Type} [BEq α] [LawfulBEq α] (l : List α) (x : α) (h : l.Nodup) :
    (if l.contains x then l else l ++ [x]).Nodup := by
  split
  · exact h
  · rename_i hc
    exact nodup_snoc h fun hx => hc (List.contains_iff_mem.mpr hx)

theorem getElem?_snoc {α : Type} (l : List α) (x : α) (k : Nat) :
    (l ++ [x])[k]? = if k = l.length then some x else l[k]? := by
  rcases Nat.lt_trichotomy k l.length with h | rfl | h
  · rw [if_neg (Nat.ne_of_lt h)]; exact List.getElem?_append_left h
  · rw [if_pos rfl]; exact List.getElem?_concat_length
  · rw [if_neg (Nat.ne_of_gt h), List.getElem?_eq_none (Nat.le_of_lt h), List.getElem?_eq_none]
    rw [List.length_append]; exact h

theorem le_countP_of_take {α : Type} (p : α → Bool) (s : List α) (k : Nat) (hk : k ≤ s.length)
    (h : ∀ a ∈ s.take k, p a = true) : k ≤ s.countP p := by
  have := (List.take_sublist k s).countP_le (p := p)
  rwa [List.countP_eq_length.mpr h, List.length_take, Nat.min_eq_left hk] at this

theorem le_countP_of_drop {α : Type} (p : α → Bool) (s : List α) (k : Nat)
    (h : ∀ a ∈ s.drop k, p a = true) : s.length ≤ k + s.countP p := by
  have := (List.drop_sublist k s).countP_le (p := p)
  rw [List.countP_eq_length.mpr h, List.length_drop] at this
  exact Nat.sub_le_iff_le_add'.mp this

theorem find?_key_map {α κ : Type} [BEq κ] (key : α → κ) (g : α → α) (hg : ∀ a, key (g a) = key a)
    (l : List α) (k : κ) :
    (l.map g).find? (fun a => key a == k) = (l.find? (fun a => key a == k)).map g := by
  rw [List.find?_map]
  congr 2
  funext a
  exact congrArg (· == k) (hg a)

theorem find?_key_of_mem {α κ : Type} [BEq κ] [LawfulBEq κ] (key : α → κ) {l : List α}
    (hnd : (l.map key).Nodup) {a : α} (ha : a ∈ l) : l.find? (fun c => key c == key a) = some a := by
  induction l with
  | nil => cases ha
  | cons b l ih =>
    rw [List.map_cons, List.nodup_cons] at hnd
    rcases List.mem_cons.mp ha with rfl | h
    · exact List.find?_cons_of_pos (beq_self_eq_true _)
    · rw [List.find?_cons_of_neg (by
        rw [beq_iff_eq]; exact fun he => hnd.1 (List.mem_map.mpr ⟨a, h, he.symm⟩))]
      exact ih hnd.2 h

theorem eq_of_key_eq {α κ : Type} [BEq κ] [LawfulBEq κ] (key : α → κ) {l : List α} (hnd : (l.map key).Nodup)
    {a b : α} (ha : a ∈ l) (hb : b ∈ l) (h : key a = key b) : a = b := by
  have hb' := find?_key_of_mem key hnd hb
  rw [← h, find?_key_of_mem key hnd ha] at hb'
  exact Option.some.inj hb'

/-- Dropping the entries whose value is `none` commutes with the lookup only because keys are
    distinct: otherwise a later entry with the same key would surface. -/
theorem find?_filterMap_keyed {κ β γ : Type} [BEq κ] [LawfulBEq κ] {l : List (κ × β)} (g : β → Option γ)
    (hnd : (l.map (fun p => p.1)).Nodup) (i : κ) :
    ((l.filterMap (fun p => (g p.2).map (fun b => (p.1, b)))).find? (fun p => p.1 == i)).map (fun p => p.2) =
      (l.find? (fun p => p.1 == i)).bind (fun p => g p.2) := by
  induction l with
  | nil => rfl
  | cons p l ih =>
    rw [List.map_cons, List.nodup_cons] at hnd
    rw [List.filterMap_cons, List.find?_cons]
    by_cases hk : (p.1 == i) = true
    · rw [hk]
      cases hg : g p.2 with
      | some b => rw [Option.map_some, List.find?_cons_of_pos (by exact hk), Option.bind_some, hg]; rfl
      | none =>
        -- no other entry carries the key
        simp only [Option.map_none, Option.bind_some, hg, Option.map_eq_none_iff, List.find?_eq_none,
          List.mem_filterMap, Option.map_eq_some_iff]
        rintro _ ⟨q, hq, b, -, rfl⟩ hqi
        exact hnd.1 (List.mem_map.mpr ⟨q, hq, (beq_iff_eq.mp hqi).trans (beq_iff_eq.mp hk).symm⟩)
    · rw [Bool.not_eq_true] at hk
      rw [hk, ← ih hnd.2]
      cases g p.2 with
      | none => rfl
      | some b => rw [Option.map_some, List.find?_cons_of_neg (by rw [hk]; exact Bool.false_ne_true)]

theorem getElem_mono_of_pairwise {s : List Int} (hs : s.Pairwise (· ≤ ·)) {i j : Nat} (hij : i ≤ j) (hj : j < s.length) :
    s[i]'(Nat.lt_of_le_of_lt hij hj) ≤ s[j] := by
  rcases Nat.lt_or_eq_of_le hij with h | rfl
  · exact List.pairwise_iff_getElem.mp hs i j _ hj h
  · exact Int.le_refl _

/-- the Go idiom `if a > b { b = a }` -/
theorem ite_gt_eq_max (a b : Int) : (if decide (a > b) = true then a else b) = max b a := by
  by_cases h : a > b
  · rw [if_pos (decide_eq_true h), Int.max_eq_right (Int.le_of_lt h)]
  · rw [if_neg (mt of_decide_eq_true h), Int.max_eq_left (Int.not_lt.mp h)]

/-- a failed check short-circuits: a chain of checks passes iff no check fires -/
theorem ite_some_eq_none {α : Type} {c : Prop} [Decidable c] {r : α} {k : Option α} :
    (if c then some r else k) = none ↔ ¬ c ∧ k = none := by
  by_cases h : c
  · simp [h]
  · simp [h]

theorem toNat_add_sub (o : Int) (k : Nat) : (o + k - o).toNat = k := by
  rw [Int.add_comm, Int.add_sub_cancel, Int.toNat_natCast]

end Babble
