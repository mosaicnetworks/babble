import Babble.Proofs.Admission
import Babble.Proofs.HGFrame
/-! The consensus passes only touch mutable attributes of stored events (`AttrOnly`), hence keep the
    admission invariant: it holds in every state a node started from genesis reaches (`runAll_admInv`). -/
namespace Babble.HG

def AttrOnly (s s' : St) : Prop := ∃ g : Ev → Ev, (∀ e, evCore (g e) = evCore e) ∧ s'.events = s.events.map g

theorem AttrOnly.of_eq {s s' : St} (h : s'.events = s.events) : AttrOnly s s' := ⟨id, fun _ => rfl, by simp [h]⟩

theorem AttrOnly.pre : Pre AttrOnly where
  refl _ := .of_eq rfl
  trans := fun ⟨g1, hg1, e1⟩ ⟨g2, hg2, e2⟩ =>
    ⟨g2 ∘ g1, fun e => by simp [Function.comp, hg2, hg1], by rw [e2, e1, List.map_map]⟩

theorem AttrOnly.trans {a b c : St} (h1 : AttrOnly a b) (h2 : AttrOnly b c) : AttrOnly a c := AttrOnly.pre.trans h1 h2

theorem AttrOnly.admInv {s s' : St} (h : AttrOnly s s') (hI : AdmInv s.events) : AdmInv s'.events := by
  obtain ⟨g, hg, he⟩ := h; rw [he]; exact AdmInv_map g hg hI

theorem AttrOnly.get {s s' : St} (h : AttrOnly s s') :
    ∃ g : Ev → Ev, (∀ e, evCore (g e) = evCore e) ∧ ∀ x, s'.get x = (s.get x).map g := by
  obtain ⟨g, hg, he⟩ := h
  exact ⟨g, hg, get_of_map (fun e => (evCore_fields (hg e)).1) he⟩

theorem AttrOnly.ids {s s' : St} (h : AttrOnly s s') : idsOf s' = idsOf s := by
  obtain ⟨g, hg, he⟩ := h
  unfold idsOf
  rw [he, List.map_map]
  exact List.map_congr_left fun e _ => (evCore_fields (hg e)).1

theorem AttrOnly.update (s : St) (id : String) (f : Ev → Ev) (hf : ∀ e, evCore (f e) = evCore e) :
    AttrOnly s (s.update id f) :=
  ⟨fun e => if e.id == id then f e else e, fun e => by
    by_cases h : (e.id == id) = true
    · simp only [h, if_true]; exact hf e
    · simp only [h]; rfl, rfl⟩

theorem update_AdmInv (s : St) (id : String) (f : Ev → Ev) (hf : ∀ e, evCore (f e) = evCore e)
    (hI : AdmInv s.events) : AdmInv (s.update id f).events :=
  (AttrOnly.update s id f hf).admInv hI

theorem insert_attr (s : St) (e : Ev) : AttrOnly { s with events := s.stored e :: s.events } (s.insert e) :=
  insert_rel AttrOnly.pre (fun s ah _ _ => AttrOnly.update s ah _ fun _ => rfl) (fun _ _ _ _ => .of_eq rfl) s e
    (AttrOnly.pre.refl _)

theorem divideOne_attr (s : St) (id : String) : AttrOnly s (divideOne s id) :=
  divideOne_rel AttrOnly.pre
    (assignRound_rel AttrOnly.pre (fun _ _ => .of_eq rfl) (fun s id _ => .update s id _ fun _ => rfl)
      (fun _ _ _ _ => .of_eq rfl) fun s id _ => .update s id _ fun _ => rfl)
    (assignLamport_rel AttrOnly.pre fun s id _ => .update s id _ fun _ => rfl) s id

theorem divideRounds_attr (s : St) : AttrOnly s s.divideRounds := AttrOnly.pre.foldl divideOne_attr _ _

theorem decideFame_events (s : St) : s.decideFame.events = s.events :=
  decideFame_rel (Pre.proj St.events) (fun _ _ _ _ => rfl) (fun _ _ => rfl) s

theorem decideRoundReceived_attr (s : St) : AttrOnly s s.decideRoundReceived :=
  decideRoundReceived_rel AttrOnly.pre (fun _ _ _ _ _ => .of_eq rfl)
    (fun s x i _ _ _ => (AttrOnly.update s x (fun e => { e with rr := some i }) fun _ => rfl).trans (.of_eq rfl)) (fun _ _ => .of_eq rfl) s

theorem processLoop_events (fuel : Nat) (s : St) : (s.processLoop fuel).events = s.events :=
  (tables_eq (processLoop_tables fuel s)).1

theorem runConsensus_attr_tail (s : St) : AttrOnly s.divideRounds s.runConsensus :=
  ((AttrOnly.of_eq (decideFame_events _)).trans (decideRoundReceived_attr _)).trans (.of_eq (processLoop_events _ _))

theorem runConsensus_attr (s : St) : AttrOnly s s.runConsensus := (divideRounds_attr s).trans (runConsensus_attr_tail s)

theorem insertAndRun_attr {s : St} {e : Ev} (h : s.admission e = none) :
    AttrOnly { s with events := s.stored e :: s.events } (s.insertAndRun e).1 := by
  rw [insertAndRun_fst_admitted h]
  exact (insert_attr s e).trans (runConsensus_attr (s.insert e))

theorem runConsensus_length (s : St) : s.runConsensus.events.length = s.events.length := by
  obtain ⟨g, _, h⟩ := runConsensus_attr s
  rw [h]; simp

theorem fresh_of_hash (s : St) (e : Ev) (hI : AdmInv s.events) (hadm : s.admission e = none)
    (hhash : ∀ d ∈ s.events, d.id = e.id → d.creator = e.creator ∧ d.index = e.index) :
    getL s.events e.id = none := by
  cases hg : getL s.events e.id with
  | none => rfl
  | some d =>
    -- `d` would be an event of `e`'s creator at `e`'s height, but `e` goes above the creator's latest
    obtain ⟨hc, hi⟩ := hhash d (getL_mem hg) (getL_id hg)
    obtain ⟨l, hl, hle⟩ := index_le_last hI (getL_mem hg)
    have := (admitted_next hadm (hc ▸ hl)).2
    omega

theorem insertAndRun_admInv (s : St) (e : Ev) (hI : AdmInv s.events) (hid : e.id ≠ "")
    (hhash : ∀ d ∈ s.events, d.id = e.id → d.creator = e.creator ∧ d.index = e.index) :
    AdmInv (s.insertAndRun e).1.events := by
  cases hadm : s.admission e with
  | some r => rw [insertAndRun_fst_rejected hadm]; exact hI
  | none =>
    -- the goal is left as it stands: once rewritten to `AdmInv (s.insert e).runConsensus.events`,
    -- every tactic that looks at it evaluates the passes (`AdmInv` is recursive on the history)
    exact (insertAndRun_attr hadm).admInv
      (admitted_AdmInv s e hI hadm hid (fresh_of_hash s e hI hadm hhash))

def StoredFrom (s : St) (es : List Ev) : Prop :=
  ∀ d ∈ s.events, ∃ a ∈ es, a.id = d.id ∧ a.creator = d.creator ∧ a.index = d.index

theorem storedFrom_attr {s s' : St} {es : List Ev} (h : AttrOnly s s') (hs : StoredFrom s es) : StoredFrom s' es := by
  obtain ⟨g, hg, he⟩ := h
  intro d hd
  rw [he] at hd
  obtain ⟨d0, hd0, rfl⟩ := List.mem_map.mp hd
  obtain ⟨hid, hc, hi, _⟩ := evCore_fields (hg d0)
  rw [hid, hc, hi]
  exact hs d0 hd0

theorem storedFrom_step (s : St) (e : Ev) (es : List Ev) (he : e ∈ es) (hs : StoredFrom s es) :
    StoredFrom (s.insertAndRun e).1 es := by
  cases hadm : s.admission e with
  | some r => rw [insertAndRun_fst_rejected hadm]; exact hs
  | none =>
    apply storedFrom_attr (insertAndRun_attr hadm)
    intro d hd
    rcases List.mem_cons.mp hd with rfl | hd'
    · exact ⟨e, he, rfl, rfl, rfl⟩
    · exact hs d hd'

/-- `hid` / `hhash` are the hash assumption (an id is the hash of the body) -/
theorem runAll_admInv (genesis : List Nat) (es : List Ev)
    (hid : ∀ a ∈ es, a.id ≠ "")
    (hhash : ∀ a ∈ es, ∀ b ∈ es, a.id = b.id → a.creator = b.creator ∧ a.index = b.index) :
    AdmInv (runAll (St.init genesis) es).events := by
  refine (runAll_induction (P := fun s => AdmInv s.events ∧ StoredFrom s es) (fun s e he ⟨hI, hs⟩ => ⟨?_, ?_⟩)
    (s := St.init genesis) ⟨trivial, fun d hd => by cases hd⟩).1
  · apply insertAndRun_admInv s e hI (hid e he)
    intro d hd hde
    obtain ⟨a, ha, h1, h2, h3⟩ := hs d hd
    obtain ⟨hc, hi⟩ := hhash a ha e he (h1.trans hde)
    exact ⟨h2 ▸ hc, h3 ▸ hi⟩
  · exact storedFrom_step s e es he hs

theorem runAll_admInv_of_nodup (genesis : List Nat) (es : List Ev) (hid : ∀ a ∈ es, a.id ≠ "")
    (hnd : (es.map (·.id)).Nodup) : AdmInv (runAll (St.init genesis) es).events :=
  runAll_admInv genesis es hid fun a ha b hb h => by
    obtain rfl := eq_of_key_eq (·.id) hnd ha hb h
    exact ⟨rfl, rfl⟩

end Babble.HG
