import Babble.Model.ByteCodec
/-! Round-trips and re-spelling facts of the hexadecimal and base-36 encodings (`Babble.ByteCodec`),
    and the link to the success/failure model of C08 (`Babble.Decode`). -/
namespace Babble.ByteCodec
open Babble.Decode (Bytes splitOn)

/-- value of an ASCII digit when the letters run up to the byte `hi`, in either case: `hexVal` and
    `val36` are this table with `hi` at `'f'` and at `'z'` -/
def digitVal (hi c : Nat) : Option Nat :=
  if 48 ≤ c ∧ c ≤ 57 then some (c - 48)
  else if 97 ≤ c ∧ c ≤ hi then some (c - 87)
  else if 65 ≤ c ∧ c ≤ hi - 32 then some (c - 55)
  else none

theorem hexVal_eq : hexVal = digitVal 102 := rfl
theorem val36_eq : val36 = digitVal 122 := rfl

/-- a lower-case letter is read in the second range, its upper-case form (32 below) in the third,
    under the same condition and with the same value -/
theorem digitVal_sub32 (hi c : Nat) (h1 : 97 ≤ c) (h2 : c ≤ 122) : digitVal hi (c - 32) = digitVal hi c := by
  unfold digitVal
  rw [if_neg (by omega), if_neg (by omega), if_neg (by omega : ¬ (48 ≤ c ∧ c ≤ 57))]
  by_cases h : c ≤ hi
  · rw [if_pos ⟨Nat.le_sub_of_add_le h1, Nat.sub_le_sub_right h 32⟩, if_pos ⟨h1, h⟩]
    exact congrArg some (Nat.sub_sub c 32 55)
  · rw [if_neg (by omega), if_neg (mt And.right h), if_neg (by omega)]

theorem digitVal_upper (hi c : Nat) : digitVal hi (upperByte c) = digitVal hi c := by
  unfold upperByte
  split
  next h => exact digitVal_sub32 hi c h.1 h.2
  next => rfl

theorem digitVal_lower (hi c : Nat) : digitVal hi (lowerByte c) = digitVal hi c := by
  unfold lowerByte
  split
  next h =>
    rw [← digitVal_sub32 hi (c + 32) (Nat.add_le_add_right h.1 32) (Nat.add_le_add_right h.2 32), Nat.add_sub_cancel]
  next => rfl

theorem digitVal_isSome (hi c : Nat) :
    (digitVal hi c).isSome = ((48 ≤ c && c ≤ 57) || (97 ≤ c && c ≤ hi) || (65 ≤ c && c ≤ hi - 32)) := by
  simp only [digitVal, apply_ite Option.isSome, Option.isSome_some, Option.isSome_none, Bool.if_true_left,
    Bool.decide_and, Bool.or_false, Bool.or_assoc]

theorem hexVal_hexDigitU (d : Nat) (h : d < 16) : hexVal (hexDigitU d) = some d := by
  have : ∀ d : Fin 16, hexVal (hexDigitU d.1) = some d.1 := by decide
  exact this ⟨d, h⟩

theorem hexDecode_hexBody (bs : List Nat) (h : ∀ b ∈ bs, b < 256) : hexDecode (hexBody bs) = some bs := by
  induction bs with
  | nil => rfl
  | cons b r ih =>
    obtain ⟨hb, hr⟩ : b < 16 * 16 ∧ ∀ x ∈ r, x < 256 := List.forall_mem_cons.mp h
    simp only [hexBody, hexDecode, hexVal_hexDigitU _ (Nat.div_lt_of_lt_mul hb),
      hexVal_hexDigitU _ (Nat.mod_lt b (by decide)), ih hr, Nat.div_add_mod']

theorem decodeFromString_cons2 (a b : Nat) (r : Bytes) : decodeFromString (a :: b :: r) = hexDecode r :=
  if_neg (Nat.not_lt.mpr (Nat.le_add_left 2 r.length))

theorem decode_encode (bs : List Nat) (h : ∀ b ∈ bs, b < 256) : decodeFromString (encodeToString bs) = some bs :=
  (decodeFromString_cons2 ..).trans (hexDecode_hexBody bs h)

theorem encode_injective (a b : List Nat) (ha : ∀ x ∈ a, x < 256) (hb : ∀ x ∈ b, x < 256)
    (h : encodeToString a = encodeToString b) : a = b := by
  have h1 := decode_encode a ha
  rw [h, decode_encode b hb] at h1
  exact (Option.some.inj h1).symm

theorem hexVal_lower (c : Nat) : hexVal (lowerByte c) = hexVal c := hexVal_eq ▸ digitVal_lower 102 c

theorem hexVal_upper (c : Nat) : hexVal (upperByte c) = hexVal c := hexVal_eq ▸ digitVal_upper 102 c

theorem hexDecode_map (f : Nat → Nat) (hf : ∀ c, hexVal (f c) = hexVal c) :
    ∀ s : Bytes, hexDecode (s.map f) = hexDecode s
  | [] => rfl
  | [_] => rfl
  | a :: b :: r => by simp only [List.map_cons, hexDecode, hf, hexDecode_map f hf r]

theorem decodeFromString_map (f : Nat → Nat) (hf : ∀ c, hexVal (f c) = hexVal c) (s : Bytes) :
    decodeFromString (s.map f) = decodeFromString s := by
  simp only [decodeFromString, List.length_map, ← List.map_drop, hexDecode_map f hf]

theorem isHexByte_iff (c : Nat) : Babble.Decode.isHexByte c = (hexVal c).isSome :=
  hexVal_eq ▸ (digitVal_isSome 102 c).symm

theorem hexDecode_isSome :
    ∀ s : Bytes, (hexDecode s).isSome = (s.all Babble.Decode.isHexByte && decide (s.length % 2 = 0))
  | [] => rfl
  | [_] => (Bool.and_false _).symm
  | a :: b :: r => by
    have step : (hexDecode (a :: b :: r)).isSome =
        ((hexVal a).isSome && ((hexVal b).isSome && (hexDecode r).isSome)) := by
      rw [hexDecode]
      cases hexVal a <;> cases hexVal b <;> cases hexDecode r <;> rfl
    simp only [step, hexDecode_isSome r, isHexByte_iff, List.all_cons, List.length_cons, Bool.and_assoc,
      Nat.add_assoc, Nat.reduceAdd, Nat.add_mod_right]

theorem hexDecode_length (s : Bytes) : ∀ bs, hexDecode s = some bs → bs.length = s.length / 2 := by
  fun_induction hexDecode s with
  | case1 => intro bs h; cases h; rfl
  | case2 a => intro bs h; cases h
  | case3 a b r x y t hr hb ha ih =>
    intro bs h
    cases h
    rw [List.length_cons, ih t hr]
    exact (Nat.add_div_right _ (by decide)).symm
  | case4 a b r hn ih =>
    intro bs h
    cases h

theorem hexDecode_class (s : Bytes) :
    Babble.Decode.hexDecode s = match hexDecode s with
      | some bs => .ok bs.length
      | none => .err := by
  unfold Babble.Decode.hexDecode
  -- the error condition of the C08 model, brought to the form `!(hexDecode s).isSome`
  rw [decide_not, ← Bool.not_and, Bool.and_comm, ← hexDecode_isSome]
  cases h : hexDecode s with
  | none => rfl
  | some bs => exact congrArg Babble.Decode.Out.ok (hexDecode_length s bs h).symm

/-- the C08 model (`ok n` / `err`) is the shadow of this one: same successes, `n` = number of bytes -/
theorem decode_class (s : Bytes) :
    Babble.Decode.decodeFromString s = match decodeFromString s with
      | some bs => .ok bs.length
      | none => .err := by
  unfold Babble.Decode.decodeFromString decodeFromString Babble.Decode.sliceFrom2
  by_cases h : s.length < 2
  · simp [h]
  · simp only [h]
    exact hexDecode_class (s.drop 2)

theorem val36_digit36 (d : Nat) (h : d < 36) : val36 (digit36 d) = some d := by
  have : ∀ d : Fin 36, val36 (digit36 d.1) = some d.1 := by decide
  exact this ⟨d, h⟩

theorem digitsLE_lt (n : Nat) : ∀ d ∈ digitsLE n, d < 36 := by
  fun_induction digitsLE n with
  | case1 n h => exact List.forall_mem_singleton.mpr h
  | case2 n h ih => exact List.forall_mem_cons.mpr ⟨Nat.mod_lt n (by decide), ih⟩

theorem digitsLE_ne_nil (n : Nat) : digitsLE n ≠ [] := by
  unfold digitsLE
  split <;> exact List.cons_ne_nil _ _

theorem digitsLE_value (n : Nat) : (digitsLE n).foldr (fun d acc => acc * 36 + d) 0 = n := by
  fun_induction digitsLE n with
  | case1 n h => simp
  | case2 n h ih => rw [List.foldr_cons, ih, Nat.div_add_mod']

theorem parseAux_digits (ds : List Nat) (h : ∀ d ∈ ds, d < 36) (a : Nat) :
    parseAux a (ds.map digit36) = some (ds.foldl (fun acc d => acc * 36 + d) a) := by
  induction ds generalizing a with
  | nil => rfl
  | cons d r ih =>
    obtain ⟨hd, hr⟩ := List.forall_mem_cons.mp h
    simp only [List.map_cons, parseAux, val36_digit36 d hd]
    exact ih hr _

theorem parse_text36 (n : Nat) : parseAux 0 (text36 n) = some n := by
  rw [text36, parseAux_digits _ fun d hd => digitsLE_lt n d (List.mem_reverse.mp hd), List.foldl_reverse]
  exact congrArg some (digitsLE_value n)

theorem text36_ne_nil (n : Nat) : text36 n ≠ [] := by
  unfold text36
  simp [digitsLE_ne_nil]

/-- a non-empty string that parses as digits has no sign in front (`+` and `-` are not digits) and
    is read as that number -/
theorem setString36_of_parse (t : Bytes) (n : Nat) (hne : t ≠ []) (h : parseAux 0 t = some n) :
    setString36 t = some (Int.ofNat n) := by
  unfold setString36
  split
  · cases h
  · cases h
  · rw [h, if_neg (mt List.isEmpty_iff.mp hne), Option.map_some]

theorem setString36_text36 (n : Nat) : setString36 (text36 n) = some (Int.ofNat n) :=
  setString36_of_parse _ n (text36_ne_nil n) (parse_text36 n)

theorem splitOn_none (sep : Nat) (b : Bytes) (h : sep ∉ b) : splitOn sep b = [b] := by
  induction b with
  | nil => rfl
  | cons c r ih =>
    simp only [splitOn, ih (List.not_mem_of_not_mem_cons h), if_neg (List.ne_of_not_mem_cons h).symm]

theorem splitOn_mid (sep : Nat) (a b : Bytes) (ha : sep ∉ a) (hb : sep ∉ b) :
    splitOn sep (a ++ sep :: b) = [a, b] := by
  induction a with
  | nil => simp only [List.nil_append, splitOn, splitOn_none sep b hb, if_true]
  | cons c r ih =>
    simp only [List.cons_append, splitOn, ih (List.not_mem_of_not_mem_cons ha),
      if_neg (List.ne_of_not_mem_cons ha).symm]

theorem bar_not_mem_text36 (n : Nat) : 124 ∉ text36 n := by
  intro h
  obtain ⟨d, hd, e⟩ := List.mem_map.mp h
  -- `|` would be a base-36 digit
  have := val36_digit36 d (digitsLE_lt n d (List.mem_reverse.mp hd))
  rw [e] at this
  cases this

theorem decode_encode_signature (r s : Nat) :
    decodeSignature (encodeSignature r s) = some (Int.ofNat r, Int.ofNat s) := by
  unfold decodeSignature encodeSignature
  rw [splitOn_mid 124 _ _ (bar_not_mem_text36 r) (bar_not_mem_text36 s)]
  simp only [setString36_text36, pairOpt]

theorem encodeSignature_injective (r s r' s' : Nat) (h : encodeSignature r s = encodeSignature r' s') :
    r = r' ∧ s = s' := by
  have h1 := decode_encode_signature r s
  rw [h, decode_encode_signature] at h1
  simp only [Option.some.injEq, Prod.mk.injEq] at h1
  exact ⟨(Int.ofNat.inj h1.1).symm, (Int.ofNat.inj h1.2).symm⟩

theorem val36_upper (c : Nat) : val36 (upperByte c) = val36 c := val36_eq ▸ digitVal_upper 122 c

theorem parseAux_map (f : Nat → Nat) (hf : ∀ c, val36 (f c) = val36 c) (a : Nat) (s : Bytes) :
    parseAux a (s.map f) = parseAux a s := by
  induction s generalizing a with
  | nil => rfl
  | cons c r ih => simp only [List.map_cons, parseAux, hf, ih]

theorem parseAux_leading_zero (s : Bytes) : parseAux 0 (48 :: s) = parseAux 0 s := rfl

theorem setString36_upper (n : Nat) : setString36 ((text36 n).map upperByte) = some (Int.ofNat n) :=
  setString36_of_parse _ n (mt List.map_eq_nil_iff.mp (text36_ne_nil n))
    ((parseAux_map upperByte val36_upper 0 _).trans (parse_text36 n))

theorem isB36Byte_iff (c : Nat) : Babble.Decode.isB36Byte c = (val36 c).isSome :=
  val36_eq ▸ (digitVal_isSome 122 c).symm

theorem parseAux_isSome (a : Nat) (s : Bytes) : (parseAux a s).isSome = s.all Babble.Decode.isB36Byte := by
  induction s generalizing a with
  | nil => rfl
  | cons c r ih =>
    simp only [parseAux, List.all_cons, isB36Byte_iff]
    cases val36 c with
    | none => rfl
    | some v => exact ih _

/-- the three branches of `setString36` (no sign, `+`, `-`) succeed under the same condition -/
theorem body_isSome {β : Type} (f : Nat → β) (r : Bytes) :
    (if r.isEmpty then none else (parseAux 0 r).map f).isSome = (!r.isEmpty && r.all Babble.Decode.isB36Byte) := by
  cases r with
  | nil => rfl
  | cons c r => exact Option.isSome_map.trans (parseAux_isSome 0 _)

theorem setString36_class (s : Bytes) : Babble.Decode.setString36 s = (setString36 s).isSome := by
  unfold Babble.Decode.setString36 setString36
  split
  · exact (body_isSome _ _).symm
  · exact (body_isSome _ _).symm
  · rename_i h1 h2
    -- `s` starts with neither sign (`h1`, `h2`), which the signed branches of the `match` on `s`
    -- in the other model contradict
    split
    · exact absurd rfl (h1 _)
    · exact absurd rfl (h2 _)
    · exact (body_isSome _ _).symm

theorem pairOpt_isSome (x y : Option Int) : (pairOpt x y).isSome = (x.isSome && y.isSome) := by
  cases x <;> cases y <;> rfl

theorem decodeSignature_class (s : Bytes) :
    Babble.Decode.decodeSignature s = (if (decodeSignature s).isSome then .ok () else .err) := by
  unfold Babble.Decode.decodeSignature decodeSignature
  generalize splitOn 124 s = l
  match l with
  | [a, b] => simp only [setString36_class, pairOpt_isSome]
  | [] => rfl
  | [_] => rfl
  | _ :: _ :: _ :: _ => rfl

end Babble.ByteCodec
