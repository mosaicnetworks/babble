import Babble.Proofs.HGReceived
import Babble.Proofs.AttrOnly
/-! # Assigned values are final: once an event has a round, a witness flag, a Lamport timestamp or a
    round received, later insertions and consensus passes never change it.
    For any node whose undetermined events have no round received yet (`WInv`): one started from
    genesis, one reset from a frame. -/
namespace Babble.HG

def Kept (e e' : Ev) : Prop :=
  (e.round.isSome → e'.round = e.round ∧ e'.wit = e.wit) ∧ (e.lamport.isSome → e'.lamport = e.lamport)

theorem Kept.trans {a b c : Ev} (h1 : Kept a b) (h2 : Kept b c) : Kept a c := by
  refine ⟨fun h => ?_, fun h => ?_⟩
  · have := h1.1 h
    have h' : b.round.isSome := by rw [this.1]; exact h
    exact ⟨(h2.1 h').1.trans this.1, (h2.1 h').2.trans this.2⟩
  · have := h1.2 h
    exact (h2.2 (by rw [this]; exact h)).trans this

structure Keeps (s s' : St) : Prop where
  ev : ∀ x e, s.get x = some e → ∃ e', s'.get x = some e' ∧
        (e.round.isSome → e'.round = e.round ∧ e'.wit = e.wit) ∧ (e.lamport.isSome → e'.lamport = e.lamport) ∧
        e'.rr = e.rr
  fresh : ∀ x, s.get x = none → ∀ e', s'.get x = some e' → e'.rr = none

theorem Keeps.pre : Pre Keeps where
  refl s := ⟨fun _ e h => ⟨e, h, fun _ => ⟨rfl, rfl⟩, fun _ => rfl, rfl⟩, fun x h e' h' => by rw [h] at h'; cases h'⟩
  trans {a b c} h1 h2 := by
    refine ⟨fun x e hx => ?_, fun x hx e'' hc => ?_⟩
    · obtain ⟨e1, hg1, hr1, hl1, hrr1⟩ := h1.ev x e hx
      obtain ⟨e2, hg2, hr2, hl2, hrr2⟩ := h2.ev x e1 hg1
      have hk := Kept.trans ⟨hr1, hl1⟩ ⟨hr2, hl2⟩
      exact ⟨e2, hg2, hk.1, hk.2, hrr2.trans hrr1⟩
    · cases hb : b.get x with
      | none => exact h2.fresh x hb e'' hc
      | some e' =>
        obtain ⟨e2, hg2, _, _, hrr2⟩ := h2.ev x e' hb
        rw [hc] at hg2; injection hg2 with hg2
        rw [hg2, hrr2]; exact h1.fresh x hx e' hb

theorem Keeps.trans {a b c : St} (h1 : Keeps a b) (h2 : Keeps b c) : Keeps a c := Keeps.pre.trans h1 h2

theorem Keeps.of_map {s s' : St} {g : Ev → Ev} (hget : ∀ x, s'.get x = (s.get x).map g)
    (hg : ∀ x e, s.get x = some e →
      (e.round.isSome → (g e).round = e.round ∧ (g e).wit = e.wit) ∧ (e.lamport.isSome → (g e).lamport = e.lamport) ∧
      (g e).rr = e.rr) :
    Keeps s s' :=
  ⟨fun x e hx => ⟨g e, by rw [hget, hx]; rfl, hg x e hx⟩, fun x hx e' he' => by rw [hget, hx] at he'; cases he'⟩

theorem Keeps.update (s : St) (id : String) (f : Ev → Ev) (hid : ∀ e, (f e).id = e.id)
    (hf : ∀ e, s.get id = some e →
      (e.round.isSome → (f e).round = e.round ∧ (f e).wit = e.wit) ∧ (e.lamport.isSome → (f e).lamport = e.lamport) ∧
      (f e).rr = e.rr) :
    Keeps s (s.update id f) := by
  refine ⟨fun x e hx => ?_, fun x hx e' => ?_⟩ <;> rw [get_update s id f hid]
  · split
    · rename_i h; subst h; rw [hx]; exact ⟨f e, rfl, hf e hx⟩
    · exact ⟨e, hx, fun _ => ⟨rfl, rfl⟩, fun _ => rfl, rfl⟩
  · intro he'; rw [hx] at he'; split at he' <;> cases he'

theorem Keeps.of_events {s s' : St} (h : s'.events = s.events) : Keeps s s' :=
  Keeps.of_map (g := id) (fun x => by rw [get_of_events h]; cases s.get x <;> rfl) fun _ _ _ => ⟨fun _ => ⟨rfl, rfl⟩, fun _ => rfl, rfl⟩

theorem cons_keeps (s : St) (e' : Ev) (hf : s.get e'.id = none) (hrr : e'.rr = none) :
    Keeps s { s with events := e' :: s.events } := by
  refine ⟨fun x e hx => ⟨e, ?_, fun _ => ⟨rfl, rfl⟩, fun _ => rfl, rfl⟩, fun x hx e'' he'' => ?_⟩
  · rw [get_cons_ne s e' x fun h => by rw [h, hx] at hf; cases hf]; exact hx
  · by_cases hne : e'.id = x
    · subst hne
      by_cases hemp : e'.id = ""
      · unfold St.get at he''; simp [hemp] at he''
      · rw [get_cons_eq s e' hemp] at he''; injection he'' with he''; rw [← he'']; exact hrr
    · rw [get_cons_ne s e' x hne, hx] at he''; cases he''

theorem insert_keeps (s : St) (e : Ev) (hf : s.get e.id = none) (hrr : e.rr = none) : Keeps s (s.insert e) :=
  insert_rel Keeps.pre
    (fun s ah _ _ => Keeps.update s ah _ (fun _ => rfl) fun _ _ => ⟨fun _ => ⟨rfl, rfl⟩, fun _ => rfl, rfl⟩)
    (fun _ _ _ _ => Keeps.of_events rfl) s e (cons_keeps s (s.stored e) hf hrr)

theorem divideOne_keeps (st : St) (y : String) : Keeps st (divideOne st y) := by
  cases hg : st.get y with
  | none => rw [divideOne_none hg]; exact Keeps.pre.refl st
  | some ev =>
    refine ⟨fun x e hx => ?_, fun x hx e' => ?_⟩ <;> rw [divideOne_get st y ev hg]
    · split
      · rename_i h
        rw [h, hg] at hx; cases hx
        have hnone : ∀ o : Option Int, o.isSome = true → ¬ o.isNone = true := fun o h => by cases o <;> simp_all
        -- the three fields `divideOne_get` writes are `if ev.x.isNone then _ else _`; what is set is kept
        refine ⟨_, rfl, fun h => ?_, fun h => ?_, rfl⟩
        · rw [if_neg (hnone _ h), if_neg (hnone _ h)]; exact ⟨rfl, rfl⟩
        · rw [if_neg (hnone _ h)]
      · exact ⟨e, hx, fun _ => ⟨rfl, rfl⟩, fun _ => rfl, rfl⟩
    · split
      · rename_i h; rw [h, hg] at hx; cases hx
      · intro he'; rw [hx] at he'; cases he'

theorem divideRounds_keeps (s : St) : Keeps s s.divideRounds := Keeps.pre.foldl divideOne_keeps _ _

theorem decideFame_keeps (s : St) : Keeps s s.decideFame := Keeps.of_events (decideFame_events s)

theorem processLoop_keeps (fuel : Nat) (s : St) : Keeps s (s.processLoop fuel) := Keeps.of_events (processLoop_events fuel s)

structure Final (s s' : St) : Prop where
  ev : ∀ x e, s.get x = some e → ∃ e', s'.get x = some e' ∧
        (e.round.isSome → e'.round = e.round ∧ e'.wit = e.wit) ∧ (e.lamport.isSome → e'.lamport = e.lamport) ∧
        (e.rr.isSome → e'.rr = e.rr)

theorem Keeps.final {s s' : St} (h : Keeps s s') : Final s s' :=
  ⟨fun x e hx => by obtain ⟨e', hg, h1, h2, h3⟩ := h.ev x e hx; exact ⟨e', hg, h1, h2, fun _ => h3⟩⟩

theorem Final.pre : Pre Final where
  refl s := (Keeps.pre.refl s).final
  trans h1 h2 := by
    refine ⟨fun x e hx => ?_⟩
    obtain ⟨e1, hg1, hr1, hl1, hrr1⟩ := h1.ev x e hx
    obtain ⟨e2, hg2, hr2, hl2, hrr2⟩ := h2.ev x e1 hg1
    have hk := Kept.trans ⟨hr1, hl1⟩ ⟨hr2, hl2⟩
    refine ⟨e2, hg2, hk.1, hk.2, fun h => ?_⟩
    have := hrr1 h
    exact (hrr2 (by rw [this]; exact h)).trans this

theorem Final.trans {a b c : St} (h1 : Final a b) (h2 : Final b c) : Final a c := Final.pre.trans h1 h2

theorem Final.of_rr (s : St) (x : String) (j : Int) (hx : ∀ e, s.get x = some e → e.rr = none) :
    Final s (s.update x (fun e => { e with rr := some j })) := by
  refine ⟨fun y e hy => ?_⟩
  by_cases hyx : y = x
  · subst hyx
    exact ⟨_, get_update_self s (fun e => { e with rr := some j }) (fun _ => rfl) hy, fun _ => ⟨rfl, rfl⟩, fun _ => rfl,
      fun h => (by rw [hx e hy] at h; cases h)⟩
  · exact ⟨e, by rw [get_update_ne s (fun e => { e with rr := some j }) (fun _ => rfl) hyx]; exact hy, fun _ => ⟨rfl, rfl⟩, fun _ => rfl, fun _ => rfl⟩

def NInv (s : St) : Prop := ∀ x ∈ s.undet, ∀ e, s.get x = some e → e.rr = none

theorem Keeps.rr_none {s s' : St} (h : Keeps s s') (x : String) (hx : ∀ e, s.get x = some e → e.rr = none) :
    ∀ e', s'.get x = some e' → e'.rr = none := by
  intro e' he'
  cases hg : s.get x with
  | none => exact h.fresh x hg e' he'
  | some e =>
    obtain ⟨e2, hg2, _, _, hrr⟩ := h.ev x e hg
    rw [he'] at hg2; injection hg2 with hg2
    rw [hg2, hrr]; exact hx e hg

theorem Keeps.ninv {s s' : St} (h : Keeps s s') (hu : s'.undet = s.undet) (hI : NInv s) : NInv s' := by
  intro x hx
  rw [hu] at hx
  exact h.rr_none x (hI x hx)

/-- the invariant in the middle of `DecideRoundReceived`: `q` are the events looked at and still
    undetermined, then those still to look at -/
structure GInv (s0 st : St) (q : List String) : Prop where
  nodup : q.Nodup
  sub : ∀ y ∈ q, y ∈ s0.undet
  noRR : ∀ y ∈ q, ∀ e, st.get y = some e → e.rr = none
  final : Final s0 st

theorem GInv.of_events {s0 st st' : St} {q : List String} (h : GInv s0 st q) (he : st'.events = st.events) : GInv s0 st' q :=
  ⟨h.nodup, h.sub, fun y hy e hg => h.noRR y hy e (by rw [← get_of_events he]; exact hg),
    h.final.trans (Keeps.of_events he).final⟩

theorem decideRoundReceived_final (s : St) (hu : s.undet.Nodup) (hI : NInv s) :
    Final s s.decideRoundReceived ∧ NInv s.decideRoundReceived ∧ s.decideRoundReceived.undet.Nodup ∧
      ∀ x ∈ s.decideRoundReceived.undet, x ∈ s.undet := by
  have h := decideRoundReceived_inv (P := GInv s) (fun st _ _ _ _ _ h => h.of_events rfl)
    (fun st q q' x j tr hq _ _ _ h => by
      -- `x` is in the queue, once: it has no round received yet, and the others are other events
      obtain ⟨hxq, hnd⟩ := List.nodup_cons.mp (hq.nodup_iff.mp h.nodup)
      have hsub : ∀ y ∈ q', y ∈ q := fun y hy => hq.mem_iff.mpr (List.mem_cons_of_mem _ hy)
      refine GInv.of_events (st := st.update x (fun e => { e with rr := some j }))
        ⟨hnd, fun y hy => h.sub y (hsub y hy), fun y hy e he => ?_,
          h.final.trans (Final.of_rr st x j (h.noRR x (hq.mem_iff.mpr List.mem_cons_self)))⟩ rfl
      rw [get_update_ne st (fun e => { e with rr := some j }) (fun _ => rfl) fun hh => hxq (by rw [← hh]; exact hy)] at he
      exact h.noRR y (hsub y hy) e he)
    (fun st _ h => h.of_events rfl) s ⟨hu, fun _ h => h, hI, Final.pre.refl s⟩
  exact ⟨h.final, h.noRR, h.nodup, h.sub⟩

/-- `CInv` of HGReceived says the first two fields as well, but fails after `Reset`: the anchor block's events
    were received by somebody else.  This weaker invariant holds from genesis and after `Reset` alike. -/
structure WInv (s : St) (seen : List String) : Prop where
  undetNodup : s.undet.Nodup
  undetSeen : ∀ x ∈ s.undet, x ∈ seen
  noRR : NInv s
  idsSeen : ∀ x ∈ idsOf s, x ∈ seen

theorem WInv.mono {s : St} {seen seen' : List String} (h : WInv s seen) (hs : ∀ x ∈ seen, x ∈ seen') : WInv s seen' :=
  ⟨h.undetNodup, fun x hx => hs x (h.undetSeen x hx), h.noRR, fun x hx => hs x (h.idsSeen x hx)⟩

theorem insert_ids (s : St) (e : Ev) : idsOf (s.insert e) = e.id :: idsOf s :=
  (insert_attr s e).ids

theorem insert_winv (s : St) (e : Ev) (seen : List String) (hW : WInv s seen) (hf : e.id ∉ seen) (hrr : e.rr = none) :
    Keeps s (s.insert e) ∧ WInv (s.insert e) (seen ++ [e.id]) := by
  have hget : s.get e.id = none := get_none_of_not_mem s e.id fun h => hf (hW.idsSeen _ h)
  have k0 := insert_keeps s e hget hrr
  refine ⟨k0, ?_, ?_, ?_, ?_⟩
  · rw [insert_undet]
    exact nodup_snoc hW.undetNodup fun h => hf (hW.undetSeen _ h)
  · intro x hx
    rw [insert_undet] at hx
    exact List.mem_append.mpr ((List.mem_append.mp hx).imp (hW.undetSeen x) id)
  · intro x hx
    rw [insert_undet] at hx
    rcases List.mem_append.mp hx with hx | hx
    · exact k0.rr_none x (hW.noRR x hx)
    · rw [List.mem_singleton.mp hx]
      exact k0.rr_none _ fun e' he' => by rw [hget] at he'; cases he'
  · intro x hx
    rw [insert_ids] at hx
    rcases List.mem_cons.mp hx with hx | hx
    · exact List.mem_append.mpr (Or.inr (by simp [hx]))
    · exact List.mem_append.mpr (Or.inl (hW.idsSeen x hx))

theorem tail_final (s : St) (hu : s.undet.Nodup) (hI : NInv s) :
    Final s.divideRounds s.runConsensus ∧ NInv s.runConsensus ∧
      s.runConsensus.undet.Nodup ∧ ∀ x ∈ s.runConsensus.undet, x ∈ s.undet := by
  have q1 := divideRounds_quiet s
  have k2 := decideFame_keeps s.divideRounds
  have q2 := decideFame_quiet s.divideRounds
  obtain ⟨f3, hI3, hu3, hs3⟩ := decideRoundReceived_final s.divideRounds.decideFame (by rw [q2.undet, q1.undet]; exact hu)
    (k2.ninv q2.undet ((divideRounds_keeps s).ninv q1.undet hI))
  have k4 : Keeps s.divideRounds.decideFame.decideRoundReceived s.runConsensus := processLoop_keeps _ _
  have hu4 : s.runConsensus.undet = s.divideRounds.decideFame.decideRoundReceived.undet :=
    (tables_eq (processLoop_tables _ _)).2.2.2.2.1
  refine ⟨(k2.final.trans f3).trans k4.final, k4.ninv hu4 hI3, by rw [hu4]; exact hu3, fun x hx => ?_⟩
  rw [hu4] at hx
  have := hs3 x hx
  rwa [q2.undet, q1.undet] at this

theorem runConsensus_winv (s : St) (seen : List String) (hW : WInv s seen) :
    Final s s.runConsensus ∧ WInv s.runConsensus seen := by
  obtain ⟨f, hn, hu, hs⟩ := tail_final s hW.undetNodup hW.noRR
  refine ⟨(divideRounds_keeps s).final.trans f, hu, fun x hx => hW.undetSeen x (hs x hx), hn, fun x hx => hW.idsSeen x ?_⟩
  rwa [(runConsensus_attr s).ids] at hx

theorem runAll_final (s : St) (es : List Ev) (seen : List String) (hW : WInv s seen)
    (hnd : (seen ++ es.map (·.id)).Nodup) (hrr : ∀ e ∈ es, e.rr = none) :
    Final s (runAll s es) ∧ WInv (runAll s es) (seen ++ es.map (·.id)) :=
  runAll_seen (P := fun s' seen' => Final s s' ∧ WInv s' seen') es
    (fun _ _ _ h => ⟨h.1, h.2.mono fun x hx => List.mem_append.mpr (Or.inl hx)⟩)
    (fun s' seen' e he h hf _ => by
      obtain ⟨k0, hW1⟩ := insert_winv s' e seen' h.2 hf (hrr e he)
      obtain ⟨f1, hW2⟩ := runConsensus_winv _ _ hW1
      exact ⟨(h.1.trans k0.final).trans f1, hW2⟩)
    s seen ⟨Final.pre.refl s, hW⟩ hnd

theorem runAll_final_append (s : St) (es1 es2 : List Ev) (seen : List String) (hW : WInv s seen)
    (hnd : (seen ++ (es1 ++ es2).map (·.id)).Nodup) (hrr : ∀ e ∈ es1 ++ es2, e.rr = none) :
    Final (runAll s es1) (runAll s (es1 ++ es2)) := by
  rw [runAll_append]
  rw [List.map_append, ← List.append_assoc] at hnd
  obtain ⟨_, hW1⟩ := runAll_final s es1 seen hW (List.nodup_append.mp hnd).1 fun e he => hrr e (List.mem_append.mpr (Or.inl he))
  exact (runAll_final _ es2 _ hW1 hnd fun e he => hrr e (List.mem_append.mpr (Or.inr he))).1

theorem init_winv (g : List Nat) : WInv (St.init g) [] :=
  ⟨List.nodup_nil, fun _ h => (by cases h), fun _ h => (by cases h), fun _ h => (by cases h)⟩

theorem values_final (g : List Nat) (es1 es2 : List Ev) (hnd : ((es1 ++ es2).map (·.id)).Nodup)
    (hrr : ∀ e ∈ es1 ++ es2, e.rr = none) (x : String) (e : Ev)
    (hx : (runAll (St.init g) es1).get x = some e) :
    ∃ e', (runAll (St.init g) (es1 ++ es2)).get x = some e' ∧
      (e.round.isSome → e'.round = e.round ∧ e'.wit = e.wit) ∧ (e.lamport.isSome → e'.lamport = e.lamport) ∧
      (e.rr.isSome → e'.rr = e.rr) :=
  (runAll_final_append _ es1 es2 [] (init_winv g) (by simpa using hnd) hrr).ev x e hx

end Babble.HG
