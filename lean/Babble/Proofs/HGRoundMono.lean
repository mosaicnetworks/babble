import Babble.Proofs.HGAssigned
/-! The round with its witness flag as an instance of `HGAssigned`: every stored event has a round, at
    least the round of each parent it names; a witness flag `true` means a round strictly above the
    self-parent's — the first event of its creator's chain in that round. -/
namespace Babble.HG

theorem computeRound_ge (s : St) (e : Ev) :
    (e.sp ≠ "" → s.roundOf e.sp ≤ s.computeRound e) ∧ (e.op ≠ "" → s.roundOf e.op ≤ s.computeRound e) := by
  have hc := computeRound_cases s e
  have hp := parentRound_eq s e
  constructor
  · intro h
    simp only [show (e.sp == "") = false by simpa using h, Bool.false_eq_true, if_false] at hp
    split at hp <;> omega
  · intro h
    rw [if_neg (by simpa using h)] at hp
    omega

theorem assignedWit_true (s : St) (id : String) (ev : Ev) (h : s.assignedWit id ev = true)
    (hsp : ev.sp ≠ "") (hne : ev.sp ≠ id) : s.roundOf ev.sp < s.computeRound ev := by
  unfold St.assignedWit St.computeWitness at h
  simp only [Bool.and_eq_true] at h
  have h2 := h.2
  have hsp' : (ev.sp == "") = false := by simpa using hsp
  simp only [hsp', Bool.false_eq_true, if_false, Gen.cmpWitness, Cmp.eval, decide_eq_true_eq] at h2
  have : ((s.queueRound (s.computeRound ev) ((s.getRound (s.computeRound ev)).getD {})).update id
      (fun e => { e with round := some (s.computeRound ev) })).roundOf ev.sp = s.roundOf ev.sp := by
    unfold St.roundOf
    obtain ⟨p, hp⟩ := queueRound_eq s (s.computeRound ev) ((s.getRound (s.computeRound ev)).getD {})
    rw [get_update_ne _ (fun e => { e with round := some (s.computeRound ev) }) (fun _ => rfl) hne, hp]
    rfl
  omega

def roundWit (e : Ev) : Option (Int × Option Bool) := e.round.map (fun r => (r, e.wit))

theorem roundWit_some {e : Ev} {a : Int × Option Bool} (h : roundWit e = some a) : e.round = some a.1 ∧ e.wit = a.2 := by
  unfold roundWit at h
  cases hr : e.round with
  | none => rw [hr] at h; cases h
  | some r => rw [hr] at h; injection h with h; rw [← h]; exact ⟨rfl, rfl⟩

theorem roundOf_of_vOf {s : St} {x : String} {a : Int × Option Bool} (h : vOf roundWit s x = some a) : s.roundOf x = a.1 := by
  obtain ⟨e, hg, he⟩ := vOf_eq_some roundWit h
  unfold St.roundOf
  rw [hg]; simp only []; rw [(roundWit_some he).1]; rfl

theorem round_assigned :
    Assigned roundWit (fun st y ev => (st.computeRound ev, some (st.assignedWit y ev)))
      (fun p c => p.1 ≤ c.1 ∧ (c.2 = some true → p.1 < c.1)) (fun p c => p.1 ≤ c.1) where
  reads e e' hr hw _ := by unfold roundWit; rw [hr, hw]
  kept e e' a h hk := by
    have := hk.1 (by rw [(roundWit_some h).1]; rfl)
    unfold roundWit at h ⊢
    rw [this.1, this.2]; exact h
  divide st y ev hg x := by
    rw [vOf_divideOne roundWit hg x]
    by_cases hxy : x = y
    · subst hxy
      rw [if_pos rfl, vOf_of_get _ hg]
      unfold roundWit
      cases h : ev.round <;> simp
    · rw [if_neg hxy, if_neg fun h => hxy h.1]
  rel st y ev := by
    refine ⟨fun h hne a ha => ⟨?_, fun hw => ?_⟩, fun h a ha => ?_⟩
    · rw [← roundOf_of_vOf ha]; exact (computeRound_ge st ev).1 h
    · rw [← roundOf_of_vOf ha]; exact assignedWit_true st y ev (by injection hw) h hne
    · rw [← roundOf_of_vOf ha]; exact (computeRound_ge st ev).2 h

abbrev RMInv := PInv roundWit (fun p c => p.1 ≤ c.1 ∧ (c.2 = some true → p.1 < c.1)) (fun p c => p.1 ≤ c.1)

theorem roundWit_none {e : Ev} (h : e.round = none) : roundWit e = none := by unfold roundWit; rw [h]; rfl

theorem runAll_rminv (g : List Nat) (es : List Ev) (hnd : (es.map (·.id)).Nodup)
    (hfresh : ∀ e ∈ es, e.id ≠ "" ∧ e.round = none ∧ e.rr = none) : RMInv (runAll (St.init g) es) :=
  runAll_pinv round_assigned _ es [] (init_winv g) (init_pinv g) (by simpa using hnd)
    fun e he => ⟨(hfresh e he).1, roundWit_none (hfresh e he).2.1, (hfresh e he).2.2⟩

theorem RMInv.round_parents {s : St} (hM : RMInv s) {x : String} {e : Ev} (hx : s.get x = some e) :
    ∃ r, e.round = some r ∧
      (e.sp ≠ "" → ∃ p rp, s.get e.sp = some p ∧ p.round = some rp ∧ rp ≤ r) ∧
      (e.op ≠ "" → ∃ p rp, s.get e.op = some p ∧ p.round = some rp ∧ rp ≤ r) := by
  obtain ⟨t, ht, h1, h2⟩ := hM.parents hx
  refine ⟨t.1, (roundWit_some ht).1, fun h => ?_, fun h => ?_⟩
  · obtain ⟨p, tp, hp, htp, hle⟩ := h1 h
    exact ⟨p, tp.1, hp, (roundWit_some htp).1, hle.1⟩
  · obtain ⟨p, tp, hp, htp, hle⟩ := h2 h
    exact ⟨p, tp.1, hp, (roundWit_some htp).1, hle⟩

theorem RMInv.witness_above {s : St} (hM : RMInv s) {x : String} {e p : Ev} {r rp : Int}
    (hx : s.get x = some e) (hw : e.wit = some true) (hr : e.round = some r)
    (hsp : e.sp ≠ "") (hp : s.get e.sp = some p) (hrp : p.round = some rp) : rp < r := by
  obtain ⟨t, ht, h1, _⟩ := hM.parents hx
  obtain ⟨p', tp, hp', htp, hlt⟩ := h1 hsp
  rw [hp] at hp'; injection hp' with hp'; subst hp'
  have h2 := hlt.2 (by rw [← (roundWit_some ht).2]; exact hw)
  rw [(roundWit_some ht).1] at hr; injection hr with hr
  rw [(roundWit_some htp).1] at hrp; injection hrp with hrp
  omega

theorem round_parents (g : List Nat) (es : List Ev) (hnd : (es.map (·.id)).Nodup)
    (hfresh : ∀ e ∈ es, e.id ≠ "" ∧ e.round = none ∧ e.rr = none) (x : String) (e : Ev)
    (hx : (runAll (St.init g) es).get x = some e) :
    ∃ r, e.round = some r ∧
      (e.sp ≠ "" → ∃ p rp, (runAll (St.init g) es).get e.sp = some p ∧ p.round = some rp ∧ rp ≤ r) ∧
      (e.op ≠ "" → ∃ p rp, (runAll (St.init g) es).get e.op = some p ∧ p.round = some rp ∧ rp ≤ r) :=
  (runAll_rminv g es hnd hfresh).round_parents hx

theorem witness_above_self_parent (g : List Nat) (es : List Ev) (hnd : (es.map (·.id)).Nodup)
    (hfresh : ∀ e ∈ es, e.id ≠ "" ∧ e.round = none ∧ e.rr = none) (x : String) (e p : Ev) (r rp : Int)
    (hx : (runAll (St.init g) es).get x = some e) (hw : e.wit = some true) (hr : e.round = some r)
    (hsp : e.sp ≠ "") (hp : (runAll (St.init g) es).get e.sp = some p) (hrp : p.round = some rp) : rp < r :=
  (runAll_rminv g es hnd hfresh).witness_above hx hw hr hsp hp hrp

end Babble.HG
