import Babble.Proofs.HGFinal
/-! The Lamport timestamp, and the round with its witness flag, are assigned to a stored event once, by
`divideOne`, by a formula over the state whose value is related to the values of the parents
(`Assigned`); `PInv` is the invariant that follows for any such attribute. -/
namespace Babble.HG

/-- `(s.parOf x).isSome` says that `x` is stored: the invariant below speaks of the two projections
    `parOf` and `vOf` only, so that it is carried over to any state in which these two agree
    (`PInv.congr`). -/
def St.parOf (s : St) (x : String) : Option (String × String) := (s.get x).map (fun e => (e.sp, e.op))

theorem parOf_isSome (s : St) (x : String) : (s.parOf x).isSome = (s.get x).isSome := by
  unfold St.parOf; cases s.get x <;> rfl

theorem parOf_of_get {s : St} {x : String} {e : Ev} (h : s.get x = some e) : s.parOf x = some (e.sp, e.op) := by
  unfold St.parOf; rw [h]; rfl

theorem parOf_none_of_get (s : St) (x : String) (h : s.get x = none) : s.parOf x = none := by
  unfold St.parOf; rw [h]; rfl

theorem AttrOnly.parOf {s s' : St} (h : AttrOnly s s') (x : String) : s'.parOf x = s.parOf x := by
  obtain ⟨g, hg, he⟩ := h.get
  unfold St.parOf
  rw [he]
  cases s.get x with
  | none => rfl
  | some e => simp [(evCore_fields (hg e)).2.2.2.1, (evCore_fields (hg e)).2.2.2.2.1]

def ParIn (s : St) : Prop := ∀ x sp op, s.parOf x = some (sp, op) →
  (sp ≠ "" → (s.parOf sp).isSome) ∧ (op ≠ "" → (s.parOf op).isSome)

theorem admission_parents (s : St) (e : Ev) (hadm : s.admission e = none) :
    (e.sp ≠ "" → (s.parOf e.sp).isSome) ∧ (e.op ≠ "" → (s.parOf e.op).isSome) := by
  obtain ⟨_, _, hchain, hop⟩ := (admission_eq_none_iff s e).mp hadm
  refine ⟨fun h => ?_, fun h => by rw [parOf_isSome]; exact hop.resolve_left h⟩
  cases hl : s.lastFrom e.creator with
  | none => rw [hl] at hchain; exact absurd hchain.1 h
  | some l =>
    -- the self-parent is the creator's latest stored event
    have hsp := (admitted_next hadm hl).1
    rw [parOf_isSome, hsp]
    exact get_isSome_of_mem s l (List.mem_of_find?_eq_some hl) (by rw [← hsp]; exact h)

inductive ProperAncestor (s : St) : String → String → Prop
  | parent {a b : String} {eb : Ev} : s.get b = some eb → a ≠ "" → (eb.sp = a ∨ eb.op = a) → ProperAncestor s a b
  | trans {a b c : String} : ProperAncestor s a b → ProperAncestor s b c → ProperAncestor s a c

theorem anc_proper (s : St) (hI : AdmInv s.events) (a b : String) (h : Anc s.events a b) :
    a = b ∨ ProperAncestor s a b := by
  induction h using Anc.parent_induction with
  | refl _ => exact Or.inl rfl
  | parent hgb hne hq _ ih =>
    have hstep := ProperAncestor.parent ((St.get_eq s hI _).trans hgb) hne (hq.imp Eq.symm Eq.symm)
    rcases ih with rfl | hpa
    · exact Or.inr hstep
    · exact Or.inr (hpa.trans hstep)

section
variable {α : Type} (v : Ev → Option α)

def vOf (s : St) (x : String) : Option α := (s.get x).bind v

theorem vOf_of_get {s : St} {x : String} {e : Ev} (h : s.get x = some e) : vOf v s x = v e := by
  unfold vOf; rw [h]; rfl

theorem vOf_eq_some {s : St} {x : String} {a : α} (h : vOf v s x = some a) : ∃ e, s.get x = some e ∧ v e = some a := by
  unfold vOf at h
  cases hg : s.get x with
  | none => rw [hg] at h; cases h
  | some e => rw [hg] at h; exact ⟨e, rfl, h⟩

theorem vOf_divideOne {st : St} {y : String} {ev : Ev} (hg : st.get y = some ev) (x : String) :
    vOf v (divideOne st y) x = if x = y then v
      { ev with round := if ev.round.isNone then some (st.computeRound ev) else ev.round,
                wit := if ev.round.isNone then some (st.assignedWit y ev) else ev.wit,
                lamport := if ev.lamport.isNone then some (lamF st.lamportOf ev.sp ev.op) else ev.lamport }
      else vOf v st x := by
  unfold vOf
  rw [divideOne_get st y ev hg]
  split <;> rfl

structure Assigned (F : St → String → Ev → α) (Rsp Rop : α → α → Prop) : Prop where
  reads : ∀ e e', e'.round = e.round → e'.wit = e.wit → e'.lamport = e.lamport → v e' = v e
  kept : ∀ e e' a, v e = some a → Kept e e' → v e' = some a
  divide : ∀ st y ev, st.get y = some ev → ∀ x,
    vOf v (divideOne st y) x = if x = y ∧ v ev = none then some (F st y ev) else vOf v st x
  /-- the self-parent's value may be assumed to belong to another record than `y`: the witness flag is
      computed after `y`'s round was stored, and the client shows that an event is not its own self-parent -/
  rel : ∀ st y ev, (ev.sp ≠ "" → ev.sp ≠ y → ∀ a, vOf v st ev.sp = some a → Rsp a (F st y ev)) ∧
    (ev.op ≠ "" → ∀ a, vOf v st ev.op = some a → Rop a (F st y ev))

structure PInv (Rsp Rop : α → α → Prop) (s : St) : Prop where
  all : ∀ x, (s.parOf x).isSome → (vOf v s x).isSome
  par : ParIn s
  rel : ∀ x sp op a, s.parOf x = some (sp, op) → vOf v s x = some a →
    (sp ≠ "" → ∀ b, vOf v s sp = some b → Rsp b a) ∧ (op ≠ "" → ∀ b, vOf v s op = some b → Rop b a)

variable {v} {F : St → String → Ev → α} {Rsp Rop : α → α → Prop}

theorem PInv.congr {s s' : St} (hp : ∀ x, s'.parOf x = s.parOf x) (hv : ∀ x, vOf v s' x = vOf v s x)
    (h : PInv v Rsp Rop s) : PInv v Rsp Rop s' := by
  refine ⟨fun x hx => ?_, fun x sp op hx => ?_, fun x sp op a hx ha => ?_⟩
  · rw [hv]; rw [hp] at hx; exact h.all x hx
  · rw [hp] at hx; simp only [hp]; exact h.par x sp op hx
  · rw [hp] at hx; rw [hv] at ha; simp only [hv]; exact h.rel x sp op a hx ha

theorem PInv.parents {s : St} (hI : PInv v Rsp Rop s)
    {x : String} {e : Ev} (hx : s.get x = some e) :
    ∃ t, v e = some t ∧ (e.sp ≠ "" → ∃ p tp, s.get e.sp = some p ∧ v p = some tp ∧ Rsp tp t) ∧
      (e.op ≠ "" → ∃ p tp, s.get e.op = some p ∧ v p = some tp ∧ Rop tp t) := by
  have hpx := parOf_of_get hx
  obtain ⟨t, ht⟩ := Option.isSome_iff_exists.mp (hI.all x (by rw [hpx]; rfl))
  have hin := hI.par x e.sp e.op hpx
  have hlt := hI.rel x e.sp e.op t hpx ht
  have aux : ∀ (R : α → α → Prop) (p : String), (s.parOf p).isSome → (∀ tp, vOf v s p = some tp → R tp t) →
      ∃ q tp, s.get p = some q ∧ v q = some tp ∧ R tp t := by
    intro R p hp hlt'
    obtain ⟨tp, htp⟩ := Option.isSome_iff_exists.mp (hI.all p hp)
    rw [parOf_isSome] at hp
    obtain ⟨q, hq⟩ := Option.isSome_iff_exists.mp hp
    exact ⟨q, tp, hq, by rw [← vOf_of_get v hq]; exact htp, hlt' tp htp⟩
  exact ⟨t, by rw [← vOf_of_get v hx]; exact ht, fun h => aux Rsp e.sp (hin.1 h) (hlt.1 h),
    fun h => aux Rop e.op (hin.2 h) (hlt.2 h)⟩

theorem PInv.anc {s : St} (hI : PInv v Rsp Rop s) {T : α → α → Prop} (htr : ∀ a b c, T a b → T b c → T a c)
    (hsp : ∀ a b, Rsp a b → T a b) (hop : ∀ a b, Rop a b → T a b) {a b : String} (h : ProperAncestor s a b) :
    ∃ ta tb, vOf v s a = some ta ∧ vOf v s b = some tb ∧ T ta tb := by
  induction h with
  | @parent a b eb hb hne hpar =>
    obtain ⟨tb, htb, h1, h2⟩ := hI.parents hb
    rw [← vOf_of_get v hb] at htb
    rcases hpar with hp | hp <;> subst hp
    · obtain ⟨p, tp, hp, htp, hr⟩ := h1 hne
      exact ⟨tp, tb, by rw [vOf_of_get v hp]; exact htp, htb, hsp _ _ hr⟩
    · obtain ⟨p, tp, hp, htp, hr⟩ := h2 hne
      exact ⟨tp, tb, by rw [vOf_of_get v hp]; exact htp, htb, hop _ _ hr⟩
  | trans _ _ ih1 ih2 =>
    obtain ⟨ta, tb, hta, htb, h1⟩ := ih1
    obtain ⟨tb', tc, htb', htc, h2⟩ := ih2
    rw [htb] at htb'; injection htb' with htb'
    exact ⟨ta, tc, hta, htc, htr _ _ _ h1 (htb' ▸ h2)⟩

theorem vOf_of_final (A : Assigned v F Rsp Rop) {s s' : St} (hA : AttrOnly s s') (hF : Final s s')
    (hall : ∀ x, (s.parOf x).isSome → (vOf v s x).isSome) (x : String) : vOf v s' x = vOf v s x := by
  cases hx : s.get x with
  | none =>
    obtain ⟨g, _, hg⟩ := hA.get
    unfold vOf; rw [hg, hx]; rfl
  | some e =>
    obtain ⟨a, ha⟩ := Option.isSome_iff_exists.mp (hall x (by rw [parOf_isSome, hx]; rfl))
    obtain ⟨e', hg', hr, hl, _⟩ := hF.ev x e hx
    rw [vOf_of_get v hx] at ha
    rw [vOf_of_get v hx, vOf_of_get v hg', ha]
    exact A.kept e e' a ha ⟨hr, hl⟩

theorem PInv.of_final (A : Assigned v F Rsp Rop) {s s' : St} (hA : AttrOnly s s') (hF : Final s s')
    (h : PInv v Rsp Rop s) : PInv v Rsp Rop s' :=
  h.congr hA.parOf (vOf_of_final A hA hF h.all)

theorem PInv.extend {s s' : St} {z sp op : String} {a : α} (hI : PInv v Rsp Rop s) (hz : s.parOf z = none)
    (hp : ∀ x, s'.parOf x = if x = z then some (sp, op) else s.parOf x)
    (hv : ∀ x, vOf v s' x = if x = z then some a else vOf v s x)
    (hin : (sp ≠ "" → (s.parOf sp).isSome) ∧ (op ≠ "" → (s.parOf op).isSome))
    (hrel : (sp ≠ "" → ∀ b, vOf v s sp = some b → Rsp b a) ∧ (op ≠ "" → ∀ b, vOf v s op = some b → Rop b a)) :
    PInv v Rsp Rop s' := by
  have old : ∀ p, (s.parOf p).isSome → p ≠ z ∧ (s'.parOf p).isSome := fun p h =>
    have hne : p ≠ z := fun hpz => by rw [hpz, hz] at h; cases h
    ⟨hne, by rw [hp, if_neg hne]; exact h⟩
  refine ⟨fun x hx => ?_, fun x sp' op' hx => ?_, fun x sp' op' t hx ht => ?_⟩
  · rw [hv]; rw [hp] at hx
    split at hx
    · rw [if_pos ‹_›]; rfl
    · rw [if_neg ‹_›]; exact hI.all x hx
  · rw [hp] at hx
    split at hx
    · injection hx with hx; injection hx with h1 h2
      rw [← h1, ← h2]
      exact ⟨fun h => (old _ (hin.1 h)).2, fun h => (old _ (hin.2 h)).2⟩
    · exact ⟨fun h => (old _ ((hI.par x sp' op' hx).1 h)).2, fun h => (old _ ((hI.par x sp' op' hx).2 h)).2⟩
  · rw [hp] at hx; rw [hv] at ht
    split at hx
    · rw [if_pos ‹_›] at ht
      injection hx with hx; injection hx with h1 h2; injection ht with ht
      rw [← h1, ← h2, ← ht]
      constructor
      · intro h b hb; rw [hv, if_neg (old _ (hin.1 h)).1] at hb; exact hrel.1 h b hb
      · intro h b hb; rw [hv, if_neg (old _ (hin.2 h)).1] at hb; exact hrel.2 h b hb
    · rw [if_neg ‹_›] at ht
      have hin' := hI.par x sp' op' hx
      constructor
      · intro h b hb; rw [hv, if_neg (old _ (hin'.1 h)).1] at hb; exact (hI.rel x sp' op' t hx ht).1 h b hb
      · intro h b hb; rw [hv, if_neg (old _ (hin'.2 h)).1] at hb; exact (hI.rel x sp' op' t hx ht).2 h b hb

theorem insert_parOf (s : St) (e : Ev) (hid : e.id ≠ "") (x : String) :
    (s.insert e).parOf x = if x = e.id then some (e.sp, e.op) else s.parOf x := by
  rw [(insert_attr s e).parOf]
  unfold St.parOf
  split
  · rename_i h; rw [h]; exact congrArg _ (get_cons_eq s (s.stored e) hid)
  · rename_i h; rw [get_cons_ne s (s.stored e) x fun h' => h h'.symm]

/-- the walk that follows the new record writes `fd` entries, which `v` does not read -/
theorem insert_vOf (A : Assigned v F Rsp Rop) (s : St) (e : Ev) (hid : e.id ≠ "") (x : String) :
    vOf v (s.insert e) x = if x = e.id then v e else vOf v s x := by
  refine (insert_rel (Pre.proj (vOf v · x)) (fun s ah cr idx => ?_) (fun _ _ _ _ => rfl) s e
    (a := { s with events := s.stored e :: s.events }) rfl).trans ?_ <;> unfold vOf
  · rw [get_update s ah (fun a => { a with fd := setAt a.fd cr (some idx) }) fun _ => rfl]
    split
    · cases s.get x with
      | none => rfl
      | some a => exact A.reads _ _ rfl rfl rfl
    · rfl
  · split
    · rename_i h
      rw [h, show e.id = (s.stored e).id from rfl, get_cons_eq s (s.stored e) hid]
      exact A.reads e _ rfl rfl rfl
    · rename_i h
      rw [get_cons_ne s (s.stored e) x fun h' => h h'.symm]

theorem foldl_divideOne_set (A : Assigned v F Rsp Rop) (l : List String) (st : St)
    (h : ∀ y ∈ l, (st.parOf y).isSome → (vOf v st y).isSome) :
    (∀ x, vOf v (l.foldl divideOne st) x = vOf v st x) ∧ (∀ x, (l.foldl divideOne st).parOf x = st.parOf x) := by
  induction l generalizing st with
  | nil => exact ⟨fun _ => rfl, fun _ => rfl⟩
  | cons y l ih =>
    have h1 : ∀ x, vOf v (divideOne st y) x = vOf v st x := by
      intro x
      cases hg : st.get y with
      | none => rw [divideOne_none hg]
      | some ev =>
        have hs := h y List.mem_cons_self (by rw [parOf_isSome, hg]; rfl)
        rw [vOf_of_get v hg] at hs
        rw [A.divide st y ev hg, if_neg fun hc => by rw [hc.2] at hs; cases hs]
    have h2 : ∀ x, (divideOne st y).parOf x = st.parOf x := (divideOne_attr st y).parOf
    have ih' := ih (divideOne st y) fun z hz hzp => by
      rw [h1]; rw [h2] at hzp; exact h z (List.mem_cons_of_mem _ hz) hzp
    exact ⟨fun x => (ih'.1 x).trans (h1 x), fun x => (ih'.2 x).trans (h2 x)⟩

theorem insert_divide_pinv (A : Assigned v F Rsp Rop) (s : St) (e : Ev) (hI : PInv v Rsp Rop s)
    (hadm : s.admission e = none) (hf : s.get e.id = none) (hid : e.id ≠ "") (hv : v e = none)
    (hu : e.id ∉ s.undet) : PInv v Rsp Rop (s.insert e).divideRounds := by
  have hpz0 : s.parOf e.id = none := parOf_none_of_get s e.id hf
  unfold St.divideRounds
  rw [insert_undet, List.foldl_append, List.foldl_cons, List.foldl_nil]
  -- the events that were waiting already have a value: nothing happens to them
  obtain ⟨hv', hp'⟩ := foldl_divideOne_set A s.undet (s.insert e) (by
    intro y hy hyp
    have hne : y ≠ e.id := fun h => hu (h ▸ hy)
    rw [insert_vOf A s e hid, if_neg hne]
    rw [insert_parOf s e hid, if_neg hne] at hyp
    exact hI.all y hyp)
  generalize s.undet.foldl divideOne (s.insert e) = st' at hv' hp'
  -- the record of the new event, as `divideOne` finds it
  have hpz' : st'.parOf e.id = some (e.sp, e.op) := by rw [hp', insert_parOf s e hid, if_pos rfl]
  obtain ⟨ev, hev⟩ : ∃ ev, st'.get e.id = some ev := by
    have := parOf_isSome st' e.id
    rw [hpz'] at this
    exact Option.isSome_iff_exists.mp this.symm
  have hevp : ev.sp = e.sp ∧ ev.op = e.op := by
    rw [parOf_of_get hev] at hpz'
    injection hpz' with h; injection h with h1 h2; exact ⟨h1, h2⟩
  have hevv : v ev = none := by
    have := hv' e.id
    rwa [vOf_of_get v hev, insert_vOf A s e hid, if_pos rfl, hv] at this
  have hpar := admission_parents s e hadm
  have old : ∀ p, (s.parOf p).isSome → p ≠ e.id ∧ vOf v st' p = vOf v s p := fun p h =>
    have hne : p ≠ e.id := fun hpz => by rw [hpz, hpz0] at h; cases h
    ⟨hne, by rw [hv', insert_vOf A s e hid, if_neg hne]⟩
  refine hI.extend (z := e.id) (sp := e.sp) (op := e.op) (a := F st' e.id ev) hpz0 (fun x => ?_) (fun x => ?_) hpar ?_
  · rw [(divideOne_attr st' e.id).parOf, hp', insert_parOf s e hid]
  · rw [A.divide st' e.id ev hev x]
    by_cases hx : x = e.id
    · rw [if_pos ⟨hx, hevv⟩, if_pos hx]
    · rw [if_neg fun h => hx h.1, if_neg hx, hv', insert_vOf A s e hid, if_neg hx]
  · have hrel := A.rel st' e.id ev
    rw [hevp.1, hevp.2] at hrel
    exact ⟨fun h b hb => hrel.1 h (old _ (hpar.1 h)).1 b (by rw [(old _ (hpar.1 h)).2]; exact hb),
      fun h b hb => hrel.2 h b (by rw [(old _ (hpar.2 h)).2]; exact hb)⟩

theorem runAll_pinv (A : Assigned v F Rsp Rop) (s : St) (es : List Ev) (seen : List String)
    (hW : WInv s seen) (hI : PInv v Rsp Rop s) (hnd : (seen ++ es.map (·.id)).Nodup)
    (hfresh : ∀ e ∈ es, e.id ≠ "" ∧ v e = none ∧ e.rr = none) : PInv v Rsp Rop (runAll s es) :=
  (runAll_seen (P := fun s' seen' => WInv s' seen' ∧ PInv v Rsp Rop s') es
    (fun _ _ _ h => ⟨h.1.mono fun x hx => List.mem_append.mpr (Or.inl hx), h.2⟩)
    (fun s' seen' e he h hf hadm => by
      obtain ⟨hid, hv, hrr⟩ := hfresh e he
      obtain ⟨_, hW1⟩ := insert_winv s' e seen' h.1 hf hrr
      obtain ⟨f, _⟩ := tail_final (s'.insert e) hW1.undetNodup hW1.noRR
      have h2 := insert_divide_pinv A s' e h.2 hadm
        (get_none_of_not_mem s' e.id fun h' => hf (h.1.idsSeen _ h')) hid hv fun h' => hf (h.1.undetSeen _ h')
      exact ⟨(runConsensus_winv _ _ hW1).2, h2.of_final A (runConsensus_attr_tail _) f⟩)
    s seen ⟨hW, hI⟩ hnd).2

theorem init_pinv (g : List Nat) : PInv v Rsp Rop (St.init g) := by
  have hp : ∀ x, (St.init g).parOf x = none := fun x => parOf_none_of_get _ x (get_none_of_not_mem _ x List.not_mem_nil)
  exact ⟨fun x hx => (by rw [hp x] at hx; cases hx), fun x sp op hx => (by rw [hp x] at hx; cases hx),
    fun x sp op a hx => (by rw [hp x] at hx; cases hx)⟩

end
end Babble.HG
