import Babble.Proofs.Dag
import Babble.Proofs.Quorum
import Mathlib.Data.List.Perm.Subperm
/-! Round, witness flag and coordinates in the records of `Babble.Dag.info`, up to: every event of
round ρ ≥ 1 strongly sees a supermajority of the witnesses of round ρ - 1 (`sswE_card`).
`tailOf`, `laPOf`, `entsE`, `sswE` (and `candsE`, `vdE` in DagRecorded) are the `let`-bound values `t`, `laP`,
`ents`, `ssw`, `cands`, `vd` of `headRec` as functions of the event; the `recOf_*` lemmas say so.

These hold because one of the regenerated comparisons unfolds to the operator named, without saying
so in their proofs: `roundFrom_cases` (`cmpRound` is `≥`); `le_parentRound`, `parentRound_eq`
(`cmpRoundParent` is `>`); `wit_mk` (`cmpWitness` is `>`); `sseeB_iff` (`cmpStronglySee` is `≥`). -/
namespace Babble.Dag
open Babble

variable (ps : List Nat)

theorem round_nil : round ps .nil = -1 := rfl

theorem recOf_round {e : E} (h : e ≠ .nil) : (recOf ps e).round = round ps e := by
  cases e with
  | nil => exact absurd rfl h
  | mk i c s o m => rfl

def laPOf (e : E) : List LaEnt := laMerge (laOf (info ps e.sp)) (laOf (info ps e.op))
def entsE (e : E) : List (Nat × List LaEnt) := entsOf e (laPOf ps e) (tailOf ps e)

theorem rOf_info (e : E) : rOf (info ps e) = round ps e := rfl

theorem round_mk (i c : Nat) (s o : E) (m : Bool) :
    round ps (.mk i c s o m) =
      roundFrom ps (entsE ps (.mk i c s o m)) (tailOf ps (.mk i c s o m)) (parentRound (info ps s) (info ps o)) := rfl

theorem roundFrom_cases (ents : List (Nat × List LaEnt)) (t : List Rec) (pr : Int) :
    (pr = -1 ∧ roundFrom ps ents t pr = 0) ∨
    (pr ≠ -1 ∧ sm ps ≤ (strongSeen ps ents t pr).length ∧ roundFrom ps ents t pr = pr + 1) ∨
    (pr ≠ -1 ∧ (strongSeen ps ents t pr).length < sm ps ∧ roundFrom ps ents t pr = pr) := by
  unfold roundFrom
  by_cases h : pr = -1
  · exact Or.inl ⟨h, if_pos (beq_iff_eq.mpr h)⟩
  · rw [if_neg (mt beq_iff_eq.mp h)]
    by_cases hc : sm ps ≤ (strongSeen ps ents t pr).length
    · exact Or.inr (Or.inl ⟨h, hc, if_pos (decide_eq_true hc)⟩)
    · exact Or.inr (Or.inr ⟨h, Nat.not_le.mp hc, if_neg (mt of_decide_eq_true hc)⟩)

theorem le_roundFrom (ents : List (Nat × List LaEnt)) (t : List Rec) (pr : Int) :
    pr ≤ roundFrom ps ents t pr := by
  rcases roundFrom_cases ps ents t pr with h | h | h
  · rw [h.2, h.1]; decide
  · rw [h.2.2]; exact Int.le_add_one (Int.le_refl pr)
  · rw [h.2.2]; exact Int.le_refl pr

theorem roundFrom_nonneg (ents : List (Nat × List LaEnt)) (t : List Rec) {pr : Int} (hpr : -1 ≤ pr) :
    0 ≤ roundFrom ps ents t pr := by
  rcases roundFrom_cases ps ents t pr with h | h | h
  · rw [h.2]; exact Int.le_refl 0
  · rw [h.2.2]; exact Int.add_le_add_right hpr 1
  · rw [h.2.2]; exact Int.lt_iff_le_and_ne.mpr ⟨hpr, Ne.symm h.1⟩

theorem le_parentRound (isp iop : List Rec) : rOf isp ≤ parentRound isp iop := by
  cases iop with
  | nil => exact Int.le_refl _
  | cons o _ =>
    show rOf isp ≤ if decide (o.round > rOf isp) = true then o.round else rOf isp
    rw [ite_gt_eq_max]; exact Int.le_max_left _ _

/-- `-1` stands for an absent parent -/
theorem parentRound_eq {isp : List Rec} (h : -1 ≤ rOf isp) (iop : List Rec) :
    parentRound isp iop = max (rOf isp) (rOf iop) := by
  cases iop with
  | nil => exact (Int.max_eq_left h).symm
  | cons o _ => exact ite_gt_eq_max o.round (rOf isp)

theorem round_ge (e : E) : -1 ≤ round ps e := by
  induction e with
  | nil => exact Int.le_refl _
  | mk i c s o m ihs _ => exact Int.le_trans ihs (Int.le_trans (le_parentRound _ _) (le_roundFrom ps _ _ _))

theorem round_nonneg {e : E} (h : e ≠ .nil) : 0 ≤ round ps e := by
  cases e with
  | nil => exact absurd rfl h
  | mk i c s o m => exact roundFrom_nonneg ps _ _ (Int.le_trans (round_ge ps s) (le_parentRound _ _))

theorem round_parents_le (i c : Nat) (s o : E) (m : Bool) :
    round ps s ≤ round ps (.mk i c s o m) ∧ round ps o ≤ round ps (.mk i c s o m) := by
  have hle : parentRound (info ps s) (info ps o) ≤ round ps (.mk i c s o m) := le_roundFrom ps _ _ _
  rw [parentRound_eq (round_ge ps s)] at hle
  exact ⟨Int.le_trans (Int.le_max_left _ _) hle, Int.le_trans (Int.le_max_right _ _) hle⟩

theorem round_mono {a e : E} (h : Anc a e) : round ps a ≤ round ps e :=
  h.rel (R := fun a e => round ps a ≤ round ps e) (fun _ => Int.le_refl _) Int.le_trans
    (fun i c s o m => (round_parents_le ps i c s o m).1) (fun i c s o m => (round_parents_le ps i c s o m).2)

theorem wit_mk (i c : Nat) (s o : E) (m : Bool) :
    wit ps (.mk i c s o m) = (ps.contains c && decide (round ps (.mk i c s o m) > round ps s)) := rfl

theorem recOf_wit {e : E} : (recOf ps e).wit = wit ps e := rfl

theorem wit_nil : wit ps .nil = false := rfl

theorem wit_ne_nil {e : E} (h : wit ps e = true) : e ≠ .nil := by
  rintro rfl; cases h

theorem wit_round_gt {e : E} (h : wit ps e = true) : round ps e.sp < round ps e ∧ ps.contains e.creator = true := by
  cases e with
  | nil => cases h
  | mk i c s o m =>
    rw [wit_mk, Bool.and_eq_true, decide_eq_true_eq] at h
    exact ⟨h.2, h.1⟩

theorem wit_unique {U : E → Prop} (hF : ForkFree U) {a b : E} (ha : U a) (hb : U b)
    (hwa : wit ps a = true) (hwb : wit ps b = true) (hc : a.creator = b.creator)
    (hr : round ps a = round ps b) : a = b := by
  -- a witness' round is above that of every proper self-ancestor
  have key : ∀ {a b : E}, wit ps b = true → SelfAnc a b → round ps a = round ps b → a = b := by
    intro a b hwb h hr
    apply Decidable.byContradiction
    intro hne
    exact Int.ne_of_lt (Int.lt_of_le_of_lt (round_mono ps (selfAnc_anc (selfAnc_sp h hne))) (wit_round_gt ps hwb).1) hr
  exact (hF a b ha hb hc).elim (key hwb · hr) fun h => (key hwa h hr.symm).symm

theorem laOf_info (e : E) : laOf (info ps e) = (recOf ps e).la := by
  cases e <;> rfl

theorem laOf_info_nil : laOf (info ps .nil) = [] := rfl

theorem of_mem_laMerge {a b : List LaEnt} {x : LaEnt} (h : x ∈ laMerge a b) : x ∈ a ∨ x ∈ b := by
  simp only [laMerge, List.mem_append, List.mem_map, List.mem_filter] at h
  rcases h with ⟨y, hy, rfl⟩ | ⟨hx, _⟩
  · split
    · next z hg => split <;> [exact Or.inr (List.mem_of_find?_eq_some hg); exact Or.inl hy]
    · exact Or.inl hy
  · exact Or.inr hx

theorem recOf_la {e : E} (h : e ≠ .nil) : (recOf ps e).la = laSet (laPOf ps e) ⟨e.creator, e, round ps e⟩ := by
  cases e with
  | nil => exact absurd rfl h
  | mk i c s o m => rfl

theorem of_mem_laSet {la : List LaEnt} {ent x : LaEnt} (h : x ∈ laSet la ent) : x = ent ∨ x ∈ la :=
  (List.mem_cons.mp h).imp_right fun h => (List.mem_filter.mp h).1

theorem la_sound (e : E) : ∀ x ∈ (recOf ps e).la, Anc x.ev e := by
  induction e with
  | nil => exact fun x hx => absurd hx List.not_mem_nil
  | mk i c s o m ihs iho =>
    intro x hx
    rcases of_mem_laSet (recOf_la ps (e := .mk i c s o m) E.noConfusion ▸ hx) with rfl | hx
    · exact anc_refl E.noConfusion
    · exact PAnc.anc ((of_mem_laMerge hx).imp (fun h => ihs x (laOf_info ps s ▸ h)) fun h => iho x (laOf_info ps o ▸ h))

theorem laP_sound {e : E} {x : LaEnt} (hx : x ∈ laPOf ps e) : PAnc x.ev e :=
  (of_mem_laMerge hx).imp (fun h => la_sound ps _ x (laOf_info ps _ ▸ h)) fun h => la_sound ps _ x (laOf_info ps _ ▸ h)

theorem laGet_filter_ne (la : List LaEnt) {c p : Nat} (h : p ≠ c) :
    laGet (la.filter (fun x => x.creator != c)) p = laGet la p := by
  rw [laGet, List.find?_filter]
  congr; funext x
  cases hx : x.creator == p
  · exact decide_eq_false fun h => Bool.false_ne_true h.2
  · exact decide_eq_true ⟨bne_iff_ne.mpr (beq_iff_eq.mp hx ▸ h), rfl⟩

theorem laGet_filter_eq (la : List LaEnt) (c : Nat) :
    laGet (la.filter (fun x => x.creator != c)) c = none := by
  rw [laGet, List.find?_eq_none]
  exact fun x hx h => bne_iff_ne.mp (List.mem_filter.mp hx).2 (beq_iff_eq.mp h)

theorem laGet_laSet_ne (la : List LaEnt) (ent : LaEnt) {p : Nat} (h : p ≠ ent.creator) :
    laGet (laSet la ent) p = laGet la p := by
  rw [laSet, laGet, List.find?_cons_of_neg (by simpa using Ne.symm h)]
  exact laGet_filter_ne la h

theorem selfAncB_iff {wid : Nat} {e : E} : selfAncB wid e = true ↔ ∃ b, SelfAnc b e ∧ b.id = wid := by
  induction e with
  | nil => simp [selfAncB, SelfAnc, selfL]
  | mk i c s o m ihs _ =>
    simp only [selfAncB, Bool.or_eq_true, beq_iff_eq, ihs, selfAnc_mk, or_and_right, exists_or, exists_eq_left, E.id]

def sseeE (y w : E) : Bool := sseeB ps (entsE ps y) (recOf ps w)
def sswE (y : E) : List Rec := strongSeen ps (entsE ps y) (tailOf ps y) (round ps y - 1)

theorem mem_entsE {y : E} {z : Nat × List LaEnt} :
    z ∈ entsE ps y ↔ z = (y.creator, (laPOf ps y).filter (fun x => x.creator != y.creator)) ∨
      ∃ r ∈ tailOf ps y, (r.e.creator, r.la) = z := by
  simp only [entsE, entsOf, List.mem_cons, List.mem_map]

/-- an event's own entry lacks its own coordinate only, so the full entry its descendants hold for it
    reaches as much -/
theorem reach_laSet {la : List LaEnt} {ent : LaEnt} {wid p : Nat} {rw : Int}
    (h : reach (la.filter (fun x => x.creator != ent.creator)) wid p rw = true) :
    reach (laSet la ent) wid p rw = true := by
  by_cases hp : p = ent.creator
  · rw [reach, hp, laGet_filter_eq] at h
    cases h
  · rw [reach, laGet_filter_ne _ hp] at h
    rw [reach, laGet_laSet_ne _ _ hp]
    exact h

/-- Validator `cr` counts towards `y` strongly seeing `w` when `y` holds an entry by `cr` that reaches
    `w`.  A descendant `y'` holds the entries of `y`'s ancestors too, and for `y` itself one that
    reaches at least as much (`reach_laSet`), so `cr` counts for `y'` as well. -/
theorem ents_mono {U : E → Prop} (hI : IdInjOn U) (hD : DC U) {y y' : E} (hy' : U y')
    (h : Anc y y') (w : Rec) (cr : Nat)
    (hc : (entsE ps y).any (fun z => z.1 == cr && reach z.2 w.e.id w.e.creator w.round) = true) :
    (entsE ps y').any (fun z => z.1 == cr && reach z.2 w.e.id w.e.creator w.round) = true := by
  rcases h.eq_or_panc with rfl | hp
  · exact hc
  · rw [List.any_eq_true] at hc ⊢
    obtain ⟨z, hz, hP⟩ := hc
    rcases (mem_entsE ps).mp hz with rfl | ⟨r, hr, hz⟩
    · -- the own entry of `y`: `y'` holds the full entry of `y`
      refine ⟨_, (mem_entsE ps).mpr (Or.inr ⟨_, tail_complete ps hI hD hy' hp, rfl⟩), ?_⟩
      rw [recOf_e ps _, recOf_la ps (anc_ne_nil h)]
      rw [Bool.and_eq_true] at hP ⊢
      exact ⟨hP.1, reach_laSet hP.2⟩
    · exact ⟨z, (mem_entsE ps).mpr (Or.inr ⟨r, tailOf_subset ps hI hD hy' h hr, hz⟩), hP⟩

theorem sseeB_iff (ents : List (Nat × List LaEnt)) (w : Rec) :
    sseeB ps ents w = true ↔ sm ps ≤ sseeCount ps ents w := decide_eq_true_iff

theorem sseeB_mono {U : E → Prop} (hI : IdInjOn U) (hD : DC U) {y y' : E} (hy' : U y')
    (h : Anc y y') (w : Rec) (hs : sseeB ps (entsE ps y) w = true) : sseeB ps (entsE ps y') w = true := by
  rw [sseeB_iff] at hs ⊢
  refine Nat.le_trans hs ?_
  simp only [sseeCount, ← List.countP_eq_length_filter]
  exact List.countP_mono_left fun cr _ => ents_mono ps hI hD hy' h w cr

theorem sm_pos : 0 < sm ps := Gen.superMajority_pos _

/-- a check on the coordinates: nothing below rests on it -/
theorem ssee_anc {U : E → Prop} (hI : IdInjOn U) (hD : DC U) {y w : E} (hy : U y) (hw : U w)
    (hwn : w ≠ .nil) (hs : sseeE ps y w = true) : Anc w y := by
  rw [sseeE, sseeB_iff, sseeCount] at hs
  obtain ⟨cr, hcr⟩ := List.exists_mem_of_length_pos (Nat.lt_of_lt_of_le (sm_pos ps) hs)
  obtain ⟨z, hz, hP⟩ := List.any_eq_true.mp (List.mem_filter.mp hcr).2
  have hreach := (Bool.and_eq_true _ _ ▸ hP).2
  rw [recOf_e ps _, reach] at hreach
  -- the coordinate through which `w` is reached belongs to an ancestor-or-self `r` of `y`
  have hla : ∀ x ∈ z.2, Anc x.ev y := by
    rcases (mem_entsE ps).mp hz with rfl | ⟨r, hr, rfl⟩
    · exact fun x hx => (laP_sound ps (List.mem_filter.mp hx).1).anc
    · obtain ⟨ha, hr⟩ := tail_sound ps hr
      exact fun x hx => anc_trans (la_sound ps r.e x (hr ▸ hx)) ha.anc
  split at hreach
  · next a hg =>
    obtain ⟨b, hb, hid⟩ := selfAncB_iff.mp (Bool.and_eq_true _ _ ▸ hreach).1
    have hby : Anc b y := anc_trans (selfAnc_anc hb) (hla a (List.mem_of_find?_eq_some hg))
    exact hI _ _ (hD _ _ hy hby) hw hid ▸ hby
  · cases hreach

theorem mem_strongSeen {ents : List (Nat × List LaEnt)} {t : List Rec} {ρ : Int} {r : Rec} :
    r ∈ strongSeen ps ents t ρ ↔ r ∈ t ∧ r.wit = true ∧ r.round = ρ ∧ sseeB ps ents r = true := by
  rw [strongSeen, List.mem_filter, Bool.and_eq_true, Bool.and_eq_true, beq_iff_eq, and_assoc]

theorem mem_sswE {y : E} {r : Rec} :
    r ∈ sswE ps y ↔ r ∈ tailOf ps y ∧ r.wit = true ∧ r.round = round ps y - 1 ∧ sseeB ps (entsE ps y) r = true :=
  mem_strongSeen ps

theorem sswE_sound {y : E} {r : Rec} (h : r ∈ sswE ps y) : Anc r.e y ∧ r = recOf ps r.e :=
  (tail_sound ps ((mem_sswE ps).mp h).1).imp_left PAnc.anc

theorem sswE_nodup {U : E → Prop} (hI : IdInjOn U) (hD : DC U) {y : E} (hy : U y) : (sswE ps y).Nodup :=
  List.Nodup.sublist List.filter_sublist (tail_nodup ps hI hD hy)

theorem sswE_subset {U : E → Prop} (hI : IdInjOn U) (hD : DC U) {y q : E} (hy : U y)
    (hq : Anc q y) (hr : round ps q = round ps y) : sswE ps q ⊆ sswE ps y := by
  intro r hr'
  obtain ⟨ht, hw, hrd, hs⟩ := (mem_sswE ps).mp hr'
  exact (mem_sswE ps).mpr ⟨tailOf_subset ps hI hD hy hq ht, hw, hr ▸ hrd, sseeB_mono ps hI hD hy hq r hs⟩

theorem round_mk_cases (i c : Nat) (s o : E) (m : Bool) :
    round ps (.mk i c s o m) = 0 ∨ sm ps ≤ (sswE ps (.mk i c s o m)).length ∨
      round ps (.mk i c s o m) = round ps s ∨ round ps (.mk i c s o m) = round ps o := by
  rcases roundFrom_cases ps (entsE ps (.mk i c s o m)) (tailOf ps (.mk i c s o m))
    (parentRound (info ps s) (info ps o)) with h | h | h
  · exact Or.inl h.2
  · refine Or.inr (Or.inl ?_)
    rw [sswE, round_mk, h.2.2, Int.add_sub_cancel]
    exact h.2.1
  · refine Or.inr (Or.inr ?_)
    rw [round_mk, h.2.2, parentRound_eq (round_ge ps s), Int.max_def]
    split
    · exact Or.inr rfl
    · exact Or.inl rfl

/-- either it advanced the round itself, or it inherits what a parent of the same round sees -/
theorem sswE_card {U : E → Prop} (hI : IdInjOn U) (hD : DC U) (y : E) (hy : U y)
    (hr : 1 ≤ round ps y) : sm ps ≤ (sswE ps y).length := by
  induction y with
  | nil => cases hr
  | mk i c s o m ihs iho =>
    have inherit : ∀ q, Anc q (.mk i c s o m) → round ps (.mk i c s o m) = round ps q →
        sm ps ≤ (sswE ps q).length → sm ps ≤ (sswE ps (.mk i c s o m)).length := fun q hq hrq hle =>
      Nat.le_trans hle ((sswE_nodup ps hI hD (hD _ _ hy hq)).subperm (sswE_subset ps hI hD hy hq hrq.symm)).length_le
    have ne_nil : ∀ q, 1 ≤ round ps q → q ≠ .nil := by rintro _ h rfl; cases h
    rcases round_mk_cases ps i c s o m with h | h | h | h
    · rw [h] at hr; cases hr
    · exact h
    · have hs := ne_nil s (h ▸ hr)
      exact inherit s (anc_sp hs) h (ihs (hD _ _ hy (anc_sp hs)) (h ▸ hr))
    · have ho := ne_nil o (h ▸ hr)
      exact inherit o (anc_op ho) h (iho (hD _ _ hy (anc_op ho)) (h ▸ hr))

end Babble.Dag
