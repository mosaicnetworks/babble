import Babble.Model.PeerSets
/-! The validator-set table (`PeerSetCache` + `core.processAcceptedInternalTransactions`) is a
    replayable function of the committed blocks. -/
namespace Babble.HG

theorem insertPeerSet_append (tbl : List (Int × List Nat)) (e : Int) (v : List Nat)
    (h : ∀ x ∈ tbl, x.1 < e) : insertPeerSet tbl e v = tbl ++ [(e, v)] := by
  induction tbl with
  | nil => rfl
  | cons p t ih =>
    unfold insertPeerSet
    rw [if_pos (Int.le_of_lt (h p List.mem_cons_self)), ih fun x hx => h x (List.mem_cons_of_mem _ hx)]
    rfl

theorem tblExact_append (tbl : List (Int × List Nat)) (e : Int) (v : List Nat) (r : Int) :
    tblExact (tbl ++ [(e, v)]) r = (tblExact tbl r).or (if e = r then some v else none) := by
  unfold tblExact
  rw [List.find?_append, Option.map_or]
  by_cases h : e = r <;> simp [h]

theorem tblExact_eq_none {tbl : List (Int × List Nat)} {r : Int} (h : ∀ x ∈ tbl, x.1 < r) :
    tblExact tbl r = none := by
  unfold tblExact
  rw [List.find?_eq_none.mpr fun x hx => by simpa using Int.ne_of_lt (h x hx)]
  rfl

theorem tblLatest_append (tbl : List (Int × List Nat)) (e : Int) (v : List Nat) (r : Int) :
    tblLatest (tbl ++ [(e, v)]) r = if e ≤ r then some v else tblLatest tbl r := by
  unfold tblLatest
  by_cases h : e ≤ r
  · simp [h]
  · simp [h]

/-- `PeerSetCache.Get` at or above the round of the first entry -/
theorem peersAtTbl_eq {tbl : List (Int × List Nat)} {f : Int × List Nat} {r : Int}
    (hhead : tbl.head? = some f) (hfirst : f.1 ≤ r) :
    peersAtTbl tbl r = ((tblExact tbl r).or (tblLatest tbl r)).getD f.2 := by
  unfold peersAtTbl
  rw [hhead]
  cases tblExact tbl r with
  | some p => rfl
  | none => exact if_neg (Int.not_lt.mpr hfirst)

theorem peersAtTbl_append (tbl : List (Int × List Nat)) (e : Int) (v : List Nat) (r : Int)
    (f : Int × List Nat) (hhead : tbl.head? = some f) (hlt : ∀ x ∈ tbl, x.1 < e) (hfirst : f.1 ≤ r) :
    peersAtTbl (tbl ++ [(e, v)]) r = if e ≤ r then v else peersAtTbl tbl r := by
  have hh : (tbl ++ [(e, v)]).head? = some f := by rw [List.head?_append, hhead]; rfl
  rw [peersAtTbl_eq hh hfirst, peersAtTbl_eq hhead hfirst, tblExact_append, tblLatest_append]
  by_cases her : e ≤ r
  · -- no older entry is an exact hit: they all lie below `e ≤ r`
    rw [tblExact_eq_none fun x hx => Int.lt_of_lt_of_le (hlt x hx) her]
    by_cases hre : e = r <;> simp [her, hre]
  · have hre : e ≠ r := fun h => her (Int.le_of_eq h)
    simp [her, hre]

structure TInv (genesis : List Nat) (bs : List PBlock) (p : List (Int × List Nat) × List Nat) : Prop where
  first : ∃ g, p.1.head? = some (0, g)
  rounds : ∀ x ∈ p.1, x.1 = 0 ∨ ∃ b ∈ bs, x.1 = Gen.effectiveRound b.1
  validators : p.2 = replayAll genesis bs
  lookup : ∀ r, 0 ≤ r → peersAtTbl p.1 r = replay genesis bs r

theorem replay_snoc (genesis : List Nat) (bs : List PBlock) (b : PBlock) (r : Int) :
    replay genesis (bs ++ [b]) r =
      if Gen.effectiveRound b.1 ≤ r then b.2.foldl applyItx (replay genesis bs r) else replay genesis bs r := by
  unfold replay
  by_cases h : Gen.effectiveRound b.1 ≤ r
  · simp [h]
  · simp [h]

theorem replay_eq_all (genesis : List Nat) (bs : List PBlock) (r : Int)
    (h : ∀ b ∈ bs, Gen.effectiveRound b.1 ≤ r) : replay genesis bs r = replayAll genesis bs := by
  unfold replay
  rw [List.filter_eq_self.mpr fun b hb => decide_eq_true (h b hb)]
  rfl

theorem replayAll_snoc (genesis : List Nat) (bs : List PBlock) (b : PBlock) :
    replayAll genesis (bs ++ [b]) = b.2.foldl applyItx (replayAll genesis bs) := by
  unfold replayAll; simp

theorem tinv_init (genesis : List Nat) : TInv genesis [] ([(0, genesis)], genesis) := by
  refine ⟨⟨genesis, rfl⟩, fun x hx => .inl ?_, rfl, fun r hr => ?_⟩
  · rw [List.mem_singleton.mp hx]
  · -- `[(0, genesis)]` written as an append, for the `_append` lemmas
    show peersAtTbl ([] ++ [(0, genesis)]) r = genesis
    rw [peersAtTbl_eq (f := (0, genesis)) rfl hr, tblExact_append, tblLatest_append, if_pos hr]
    split <;> rfl

/-- the activation delay regenerated from the source: six rounds after the round received -/
theorem effectiveRound_eq (rr : Int) : Gen.effectiveRound rr = rr + 6 := rfl

theorem effectiveRound_lt {a b : Int} (h : a < b) : Gen.effectiveRound a < Gen.effectiveRound b := by
  rw [effectiveRound_eq, effectiveRound_eq]
  exact Int.add_lt_add_right h 6

theorem effectiveRound_pos {a : Int} (h : 0 ≤ a) : 0 < Gen.effectiveRound a := by
  rw [effectiveRound_eq]
  exact Int.add_pos_of_nonneg_of_pos h (by decide)

theorem tinv_step (genesis : List Nat) (bs : List PBlock) (p : List (Int × List Nat) × List Nat) (b : PBlock)
    (hI : TInv genesis bs p) (hnew : ∀ c ∈ bs, c.1 < b.1) (hpos : 0 ≤ b.1) :
    TInv genesis (bs ++ [b]) (tableStep p b) := by
  have heff : ∀ x ∈ p.1, x.1 < Gen.effectiveRound b.1 := by
    intro x hx
    rcases hI.rounds x hx with h | ⟨c, hc, h⟩
    · rw [h]; exact effectiveRound_pos hpos
    · rw [h]; exact effectiveRound_lt (hnew c hc)
  have hrounds : ∀ x ∈ p.1, x.1 = 0 ∨ ∃ c ∈ bs ++ [b], x.1 = Gen.effectiveRound c.1 := fun x hx =>
    (hI.rounds x hx).imp_right fun ⟨c, hc, h⟩ => ⟨c, List.mem_append_left _ hc, h⟩
  unfold tableStep
  split
  next hemp =>
    -- a block without receipts leaves the table and both replays as they are
    have hb2 : b.2 = [] := List.isEmpty_iff.mp hemp
    refine ⟨hI.first, hrounds, ?_, fun r hr => ?_⟩
    · rw [replayAll_snoc, hb2]; exact hI.validators
    · rw [replay_snoc, hb2, List.foldl_nil, ite_self]; exact hI.lookup r hr
  next =>
    have hany : (p.1.any (·.1 == Gen.effectiveRound b.1)) = false :=
      List.any_eq_false.mpr fun x hx => by simpa using Int.ne_of_lt (heff x hx)
    simp only [hany, Bool.false_eq_true, if_false]
    rw [insertPeerSet_append _ _ _ heff]
    obtain ⟨g, hg⟩ := hI.first
    refine ⟨⟨g, by rw [List.head?_append, hg]; rfl⟩, fun x hx => ?_, ?_, fun r hr => ?_⟩
    · rcases List.mem_append.mp hx with hx | hx
      · exact hrounds x hx
      · exact .inr ⟨b, List.mem_append_right _ List.mem_cons_self, by rw [List.mem_singleton.mp hx]⟩
    · rw [replayAll_snoc, hI.validators]
    · rw [peersAtTbl_append p.1 _ _ r (0, g) hg heff hr, replay_snoc]
      split
      next her =>
        -- every earlier block is effective below `b`, so at `r` the replay has applied them all
        rw [hI.validators, replay_eq_all]
        exact fun c hc => Int.le_trans (Int.le_of_lt (effectiveRound_lt (hnew c hc))) her
      next => exact hI.lookup r hr

/-- blocks in committed order with strictly increasing, non-negative round received (C02) -/
def Increasing : List PBlock → Prop
  | [] => True
  | b :: bs => 0 ≤ b.1 ∧ (∀ c ∈ bs, b.1 < c.1) ∧ Increasing bs

theorem Increasing.of_append {bs cs : List PBlock} (h : Increasing (bs ++ cs)) : Increasing bs := by
  induction bs with
  | nil => trivial
  | cons b bs ih => exact ⟨h.1, fun c hc => h.2.1 c (List.mem_append_left _ hc), ih h.2.2⟩

theorem tinv_fold (genesis : List Nat) (pre bs : List PBlock) (p : List (Int × List Nat) × List Nat)
    (hI : TInv genesis pre p) (hinc : Increasing bs) (hsep : ∀ c ∈ pre, ∀ b ∈ bs, c.1 < b.1) :
    TInv genesis (pre ++ bs) (bs.foldl tableStep p) := by
  induction bs generalizing pre p with
  | nil => rw [List.append_nil]; exact hI
  | cons b bs ih =>
    obtain ⟨hpos, hlt, hrest⟩ := hinc
    have h1 := tinv_step genesis pre p b hI (fun c hc => hsep c hc b List.mem_cons_self) hpos
    rw [List.append_cons]
    refine ih (pre ++ [b]) _ h1 hrest fun c hc d hd => ?_
    rcases List.mem_append.mp hc with hc | hc
    · exact hsep c hc d (List.mem_cons_of_mem _ hd)
    · rw [List.mem_singleton.mp hc]; exact hlt d hd

theorem tinv_buildTable (genesis : List Nat) (bs : List PBlock) (hinc : Increasing bs) :
    TInv genesis bs (buildTable genesis bs) :=
  tinv_fold genesis [] bs _ (tinv_init genesis) hinc nofun

end Babble.HG
