import Babble.Generated
/-! What the two regenerated thresholds (`Gen.superMajority`, `Gen.trustCount`) amount to in
    arithmetic.  Core Lean only, so that the property files of the core-only models can use it. -/
namespace Babble.Gen
open Babble

theorem superMajority_spec (n : Nat) :
    3 * superMajority n > 2 * n ∧ 3 * (superMajority n - 1) ≤ 2 * n := by
  unfold superMajority; omega

theorem superMajority_pos (n : Nat) : 0 < superMajority n := Nat.succ_pos _

theorem superMajority_le_iff (n c : Nat) : superMajority n ≤ c ↔ 2 * n < 3 * c := by
  unfold superMajority; omega

/-- both arguments are `n`: the trust count of a duplicate-free set -/
theorem trustCount_spec (n : Nat) :
    (n ≤ 1 → trustCount n n = 0) ∧
    (2 ≤ n → 3 * trustCount n n ≥ n ∧ 3 * (trustCount n n - 1) < n) := by
  unfold trustCount Cmp.evalN ceilDiv
  by_cases h : n > 1
  · rw [if_pos (decide_eq_true h)]; omega
  · rw [if_neg (by simpa using h)]; omega

theorem lt_of_trustCount_lt (n s : Nat) (h : s > trustCount n n) : 3 * s > n := by
  have := trustCount_spec n
  omega

end Babble.Gen
