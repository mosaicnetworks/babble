import Babble.Model.Containers
import Babble.Proofs.ListFacts
/-! Refinement lemmas for the container models: what `RollingIndex` and `LRU` return is always the
    latest value written at that index / key (they are partial views of a plain map), and their sizes
    stay bounded. -/
namespace Babble.Containers

namespace RI
variable {α : Type}

/-- what `Set` with non-negative indexes maintains -/
def Reg (r : RI α) : Prop := (r.lastIndex < 0 → r.items = []) ∧ (r.items.length : Int) ≤ r.lastIndex + 1

theorem reg_new (size : Nat) : Reg (new size : RI α) := ⟨fun _ => rfl, Int.le_refl 0⟩

/-- The rolling index read as a partial map from indexes: `items` holds the indexes `oldest … lastIndex`
    in order, and what `set` and `getItem` do is stated below against this map, not against `items`. -/
def view (r : RI α) (i : Int) : Option α :=
  if r.oldest ≤ i ∧ i ≤ r.lastIndex then r.items[(i - r.oldest).toNat]? else none

theorem oldest_add_length (r : RI α) : r.oldest + r.items.length = r.lastIndex + 1 := by
  unfold oldest; omega

theorem view_add (r : RI α) (k : Nat) : r.view (r.oldest + k) = r.items[k]? := by
  have := oldest_add_length r
  unfold view
  split
  · rw [toNat_add_sub]
  · exact (List.getElem?_eq_none (by omega)).symm

theorem view_none_of_lt (r : RI α) (j : Int) (h : j < r.oldest) : r.view j = none :=
  if_neg fun c => Int.not_le.mpr h c.1

theorem view_none_of_nil (r : RI α) (j : Int) (h : r.items = []) : r.view j = none :=
  if_neg fun c => by unfold oldest at c; rw [h, List.length_nil] at c; omega

theorem set_ok {r r' : RI α} {x : α} {i : Int} (h : r.set x i = .ok r') :
    ((r.lastIndex < 0 ∨ i = r.lastIndex + 1) ∧
      r' = ⟨r.size, i, r.items.drop (if r.items.length ≥ r.size then r.size / 2 else 0) ++ [x]⟩) ∨
    ∃ n < r.items.length, i = r.oldest + n ∧ r' = { r with items := r.items.set n x } := by
  unfold set at h
  by_cases h1 : 0 ≤ r.lastIndex ∧ i > r.lastIndex + 1
  · rw [if_pos h1] at h; cases h
  rw [if_neg h1] at h
  by_cases h2 : r.lastIndex < 0 ∨ i = r.lastIndex + 1
  · rw [if_pos h2] at h
    cases h
    refine .inl ⟨h2, ?_⟩
    split <;> rfl
  rw [if_neg h2] at h
  by_cases h3 : i < r.oldest
  · rw [if_pos h3] at h; cases h
  obtain ⟨n, rfl⟩ := Int.le.dest (Int.not_lt.mp h3)
  rw [if_neg h3, toNat_add_sub] at h
  cases h
  have := oldest_add_length r
  exact .inr ⟨n, by omega, rfl, rfl⟩

theorem view_set {r r' : RI α} {x : α} {i : Int} (hr : Reg r) (h : r.set x i = .ok r') (j : Int) :
    r'.view j = if r'.oldest ≤ j then if j = i then some x else r.view j else none := by
  by_cases hj : r'.oldest ≤ j
  case neg => rw [if_neg hj, view_none_of_lt r' j (Int.not_le.mp hj)]
  obtain ⟨k, rfl⟩ := Int.le.dest hj
  rw [if_pos hj, view_add]
  have hlen' := oldest_add_length r'
  rcases set_ok h with ⟨hin, rfl⟩ | ⟨n, hn, rfl, rfl⟩
  · -- appending: `r'.items` is `r.items` without its first `m`, then `x`, which sits at index `i`
    generalize hm : (if r.items.length ≥ r.size then r.size / 2 else 0) = m at hlen' ⊢
    have hml : m ≤ r.items.length := by
      subst hm
      split
      · exact Nat.le_trans (Nat.div_le_self _ 2) ‹_›
      · exact Nat.zero_le _
    simp only [List.length_append, Int.natCast_add, ← Int.add_assoc] at hlen'
    have hi := (Int.add_left_inj 1).mp hlen'
    rw [getElem?_snoc, List.getElem?_drop]
    by_cases hk : k = (r.items.drop m).length
    · rw [if_pos hk, if_pos (hk ▸ hi)]
    · rw [if_neg hk, if_neg fun e => hk (Int.natCast_inj.mp (Int.add_left_cancel (e.trans hi.symm)))]
      rcases hin with hneg | rfl
      · have := hr.1 hneg
        rw [view_none_of_nil r _ this, this]; rfl
      · have hlen := oldest_add_length r
        rw [List.length_drop] at hi
        rw [show RI.oldest ⟨r.size, r.lastIndex + 1, r.items.drop m ++ [x]⟩ = r.oldest + ↑m by omega,
          Int.add_assoc, ← Int.natCast_add, view_add]
  · -- replacing: same window, one position changed
    have ho : ({ r with items := r.items.set n x } : RI α).oldest = r.oldest := by
      simp only [oldest, List.length_set]
    rw [ho, view_add, List.getElem?_set, if_pos hn]
    by_cases hk : n = k
    · rw [if_pos hk, if_pos (by rw [hk])]
    · rw [if_neg hk, if_neg fun e => hk (Int.natCast_inj.mp (Int.add_left_cancel e)).symm]

theorem set_reg {r r' : RI α} {x : α} {i : Int} (hr : Reg r) (hi : 0 ≤ i) (h : r.set x i = .ok r') : Reg r' := by
  rcases set_ok h with ⟨hin, rfl⟩ | ⟨n, _, _, rfl⟩
  · refine ⟨fun hn => absurd hi (Int.not_le.mpr hn), ?_⟩
    have := hr.2
    simp only [List.length_append, List.length_drop, List.length_singleton]
    omega
  · exact ⟨fun hn => by rw [hr.1 hn]; rfl, by simpa only [List.length_set] using hr.2⟩

theorem oldest_le_of_set {r r' : RI α} {x : α} {i : Int} (hi : 0 ≤ i) (h : r.set x i = .ok r') :
    r.oldest ≤ r'.oldest := by
  rcases set_ok h with ⟨hin, rfl⟩ | ⟨n, _, _, rfl⟩
  · simp only [oldest, List.length_append, List.length_drop, List.length_singleton]
    omega
  · exact Int.le_of_eq (by simp only [oldest, List.length_set])

/-- `2 ≤ n`: a full window makes room by dropping `n / 2` items, which has to be at least one -/
theorem set_len {r r' : RI α} {x : α} {i : Int} {n : Nat} (hn : 2 ≤ n) (hr : r.size = n ∧ r.items.length ≤ n)
    (h : r.set x i = .ok r') : r'.size = n ∧ r'.items.length ≤ n := by
  obtain ⟨rfl, hl⟩ := hr
  rcases set_ok h with ⟨_, rfl⟩ | ⟨_, _, _, rfl⟩
  · refine ⟨rfl, ?_⟩
    simp only [List.length_append, List.length_drop, List.length_singleton]
    split
    · omega
    · omega
  · exact ⟨rfl, by simpa only [List.length_set] using hl⟩

theorem getItem_ok_iff (r : RI α) (i : Int) (x : α) : r.getItem i = .ok x ↔ r.view i = some x := by
  unfold getItem
  by_cases h : i < r.oldest
  · rw [if_pos h, view_none_of_lt r i h]; exact ⟨nofun, nofun⟩
  · obtain ⟨k, rfl⟩ := Int.le.dest (Int.not_lt.mp h)
    rw [if_neg h, view_add, toNat_add_sub]
    cases r.items[k]? <;> simp

end RI

section alist
variable {κ ν : Type} [DecidableEq κ]

theorem aerase_sublist (k : κ) (l : List (κ × ν)) : (aerase k l).Sublist l := by
  induction l with
  | nil => exact .slnil
  | cons p l ih =>
    rw [aerase]
    split
    · exact ih.cons p
    · exact ih.cons_cons p

theorem alookup_aerase (k k' : κ) (l : List (κ × ν)) :
    alookup k' (aerase k l) = if k' = k then none else alookup k' l := by
  induction l with
  | nil => exact (ite_self _).symm
  | cons p l ih =>
    rw [aerase]
    by_cases hp : p.1 = k
    · rw [if_pos hp, ih, alookup]
      by_cases hk : k' = k
      · rw [if_pos hk, if_pos hk]
      · rw [if_neg hk, if_neg hk, if_neg fun e => hk (e.symm.trans hp)]
    · rw [if_neg hp, alookup, alookup, ih]
      by_cases hpk : p.1 = k'
      · rw [if_pos hpk, if_neg fun e => hp (hpk.trans e), if_pos hpk]
      · rw [if_neg hpk, if_neg hpk]

theorem alookup_isSome_iff (k : κ) (l : List (κ × ν)) : (alookup k l).isSome ↔ k ∈ l.map (·.1) := by
  induction l with
  | nil => exact ⟨nofun, nofun⟩
  | cons p l ih =>
    rw [alookup, List.map_cons, List.mem_cons]
    split
    · rename_i hp; exact ⟨fun _ => .inl hp.symm, fun _ => rfl⟩
    · rename_i hp; exact ih.trans ⟨.inr, fun h => h.resolve_left fun e => hp e.symm⟩

theorem mem_keys_of_alookup (k : κ) (l : List (κ × ν)) (h : (alookup k l).isSome) : k ∈ l.map (·.1) :=
  (alookup_isSome_iff k l).mp h

theorem aerase_length_lt (k : κ) (l : List (κ × ν)) (h : (alookup k l).isSome) : (aerase k l).length < l.length := by
  induction l with
  | nil => cases h
  | cons p l ih =>
    rw [aerase]
    rw [alookup] at h
    split
    · exact Nat.lt_succ_of_le (aerase_sublist k l).length_le
    · rename_i hp; rw [if_neg hp] at h; exact Nat.succ_lt_succ (ih h)

theorem alookup_dropLast (k : κ) (x : ν) (l : List (κ × ν)) (h : alookup k l.dropLast = some x) :
    alookup k l = some x := by
  induction l with
  | nil => exact h
  | cons p l ih =>
    cases l with
    | nil => cases h
    | cons q l =>
      rw [List.dropLast_cons_cons, alookup] at h
      rw [alookup]
      split
      · rename_i hp; rwa [if_pos hp] at h
      · rename_i hp; rw [if_neg hp] at h; exact ih h

end alist

namespace LRU
variable {κ ν : Type} [DecidableEq κ]

def Inv (c : LRU κ ν) : Prop := (c.items.map (·.1)).Nodup ∧ c.items.length ≤ c.size

omit [DecidableEq κ] in
theorem inv_new (size : Nat) : Inv (new size : LRU κ ν) := ⟨.nil, Nat.zero_le _⟩

/-- what a hit in `Add` and in `Get` does -/
theorem touch_inv (c : LRU κ ν) (k : κ) (v : ν) (h : Inv c) (hk : (alookup k c.items).isSome) :
    Inv { c with items := (k, v) :: aerase k c.items } := by
  refine ⟨List.nodup_cons.mpr ⟨fun hm => ?_, h.1.sublist ((aerase_sublist k _).map _)⟩,
    Nat.le_trans (aerase_length_lt k _ hk) h.2⟩
  have := (alookup_isSome_iff k _).mpr hm
  rw [alookup_aerase, if_pos rfl] at this
  cases this

theorem add_inv (c : LRU κ ν) (k : κ) (v : ν) (h : Inv c) : Inv (c.add k v).1 := by
  unfold add
  split
  · exact touch_inv c k v h ‹_›
  · rename_i hk
    have hnd : (((k, v) :: c.items).map (·.1)).Nodup :=
      List.nodup_cons.mpr ⟨fun hm => hk ((alookup_isSome_iff k _).mpr hm), h.1⟩
    split
    · exact ⟨hnd.sublist ((List.dropLast_sublist _).map _), by
        rw [List.length_dropLast, List.length_cons, Nat.add_sub_cancel]; exact h.2⟩
    · exact ⟨hnd, Nat.not_lt.mp ‹_›⟩

theorem get_inv (c : LRU κ ν) (k : κ) (h : Inv c) : Inv (c.get k).1 := by
  unfold get
  cases hl : c.lookup k with
  | none => exact h
  | some v => exact touch_inv c k v h (by rw [show alookup k c.items = some v from hl]; rfl)

theorem remove_inv (c : LRU κ ν) (k : κ) (h : Inv c) : Inv (c.remove k).1 := by
  unfold remove
  split
  · exact ⟨h.1.sublist ((aerase_sublist k _).map _), Nat.le_trans (aerase_sublist k _).length_le h.2⟩
  · exact h

theorem lookup_add_same (c : LRU κ ν) (k : κ) (v : ν) (hs : 1 ≤ c.size) : (c.add k v).1.lookup k = some v := by
  unfold add
  have hd : ∀ l : List (κ × ν), alookup k ((k, v) :: l) = some v := fun l => by rw [alookup, if_pos rfl]
  split
  · exact hd _
  · split
    · rename_i hl
      cases hc : c.items with
      | nil => rw [hc] at hl; exact absurd hl (Nat.not_lt.mpr hs)
      | cons q l => exact hd _
    · exact hd _

theorem lookup_add (c : LRU κ ν) (k k' : κ) (v x : ν) (h : (c.add k v).1.lookup k' = some x) :
    if k' = k then x = v else c.lookup k' = some x := by
  have hd : ∀ l : List (κ × ν), alookup k' ((k, v) :: l) = some x →
      if k' = k then x = v else alookup k' l = some x := fun l hl => by
    rw [alookup] at hl
    split at hl
    · rename_i e; rw [if_pos (Eq.symm e)]; exact (Option.some.inj hl).symm
    · rename_i e; rw [if_neg (fun e' => e (Eq.symm e'))]; exact hl
  unfold add at h
  split at h
  · have := hd _ h
    split
    · rwa [if_pos ‹_›] at this
    · rwa [if_neg ‹_›, alookup_aerase, if_neg ‹_›] at this
  · split at h
    · exact hd _ (alookup_dropLast _ _ _ h)
    · exact hd _ h

theorem lookup_get (c : LRU κ ν) (k k' : κ) : (c.get k).1.lookup k' = c.lookup k' := by
  unfold get
  cases hl : c.lookup k with
  | none => rfl
  | some v =>
    show alookup k' ((k, v) :: aerase k c.items) = alookup k' c.items
    rw [alookup, alookup_aerase]
    by_cases hk : k = k'
    · rw [if_pos hk, ← hk]; exact hl.symm
    · rw [if_neg hk, if_neg (fun e => hk e.symm)]

theorem lookup_remove (c : LRU κ ν) (k k' : κ) :
    (c.remove k).1.lookup k' = if k' = k then none else c.lookup k' := by
  unfold remove
  split
  · exact alookup_aerase k k' _
  · rename_i hn
    split
    · rename_i e; rw [e]; exact Option.not_isSome_iff_eq_none.mp hn
    · rfl

end LRU

inductive LOp (κ ν : Type) | add (k : κ) (v : ν) | get (k : κ) | remove (k : κ)

variable {κ ν : Type} [DecidableEq κ]

def lruStep (c : LRU κ ν) : LOp κ ν → LRU κ ν
  | .add k v => (c.add k v).1
  | .get k => (c.get k).1
  | .remove k => (c.remove k).1

def mapStep (m : κ → Option ν) : LOp κ ν → (κ → Option ν)
  | .add k v => fun k' => if k' = k then some v else m k'
  | .get _ => m
  | .remove k => fun k' => if k' = k then none else m k'

/-- an inclusion, not an equality: eviction makes the cache forget keys the map still holds -/
def Sim (c : LRU κ ν) (m : κ → Option ν) : Prop := ∀ k v, c.lookup k = some v → m k = some v

theorem sim_step (c : LRU κ ν) (m : κ → Option ν) (op : LOp κ ν) (h : Sim c m) :
    Sim (lruStep c op) (mapStep m op) := by
  intro k' x hx
  cases op with
  | add k v =>
    have := LRU.lookup_add c k k' v x hx
    show (if k' = k then some v else m k') = some x
    split at this
    · rename_i e; rw [if_pos e, this]
    · rename_i e; rw [if_neg e]; exact h k' x this
  | get k => exact h k' x ((LRU.lookup_get c k k').symm.trans hx)
  | remove k =>
    rw [show (lruStep c (.remove k)).lookup k' = _ from LRU.lookup_remove c k k'] at hx
    show (if k' = k then none else m k') = some x
    split at hx
    · cases hx
    · rename_i e; rw [if_neg e]; exact h k' x hx

end Babble.Containers
