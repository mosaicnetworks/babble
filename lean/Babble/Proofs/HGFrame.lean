import Babble.Proofs.HGPasses
/-! Which tables each pass leaves untouched.  `InsertEvent`'s coordinate walk, `DivideRounds`,
    `DecideFame` and `DecideRoundReceived` write only the event records, the round table and the two
    queues; one step of `ProcessDecidedRounds` pops `pending` and leaves alone what the other passes work on. -/
namespace Babble.HG

/-- the tables that only `ProcessDecidedRounds` (and `Reset`) may change -/
def St.out (s : St) :=
  (s.blocks, s.lastBlock, s.peerSets, s.validators, s.repertoire, s.frames, s.lastCons, s.lcr, s.lowerBound)

@[simp] theorem update_out (s : St) (id : String) (f : Ev → Ev) : (s.update id f).out = s.out := rfl
@[simp] theorem setRound_out (s : St) (r : Int) (ri : RoundInfo) : (s.setRound r ri).out = s.out := rfl

structure TableBlind {α} (f : St → α) : Prop where
  events : ∀ s evs, f { s with events := evs } = f s
  rounds : ∀ s r ri, f (s.setRound r ri) = f s
  pending : ∀ s p, f { s with pending := p } = f s
  undet : ∀ s u, f { s with undet := u } = f s

theorem TableBlind.passes {α} {f : St → α} (hf : TableBlind f) (s : St) :
    (∀ e, f (s.insertCoords e) = f s) ∧ f s.divideRounds = f s ∧ f s.decideFame = f s ∧ f s.decideRoundReceived = f s := by
  have hR := Pre.proj f
  have hu : ∀ s id g, f (s.update id g) = f s := fun s id g => hf.events s _
  refine ⟨fun e => insertCoords_rel hR (fun _ _ _ _ => hu _ _ _) s e (hf.events s _), ?_, ?_, ?_⟩
  · exact divideRounds_rel hR
      (assignRound_rel hR hf.pending (fun _ _ _ => hu _ _ _) (fun _ _ _ _ => hf.rounds _ _ _) fun _ _ _ => hu _ _ _)
      (assignLamport_rel hR fun _ _ _ => hu _ _ _) s
  · exact decideFame_rel hR (fun _ _ _ _ => hf.rounds _ _ _) hf.pending s
  · exact decideRoundReceived_rel hR (fun _ _ _ _ _ => hf.rounds _ _ _)
      (fun _ _ _ _ _ _ => (hf.rounds _ _ _).trans (hu _ _ _)) hf.undet s

theorem out_blind : TableBlind St.out := ⟨fun _ _ => rfl, fun _ _ _ => rfl, fun _ _ => rfl, fun _ _ => rfl⟩
theorem topo_blind : TableBlind St.topo := ⟨fun _ _ => rfl, fun _ _ _ => rfl, fun _ _ => rfl, fun _ _ => rfl⟩
theorem pendingLoaded_blind : TableBlind St.pendingLoaded :=
  ⟨fun _ _ => rfl, fun _ _ _ => rfl, fun _ _ => rfl, fun _ _ => rfl⟩

theorem insert_out (s : St) (e : Ev) : (s.insert e).out = s.out :=
  insert_rel (Pre.proj St.out) (fun _ _ _ _ => rfl) (fun _ _ _ _ => rfl) s e rfl
theorem divideRounds_out (s : St) : s.divideRounds.out = s.out := (out_blind.passes s).2.1
theorem decideFame_out (s : St) : s.decideFame.out = s.out := (out_blind.passes s).2.2.1
theorem decideRoundReceived_out (s : St) : s.decideRoundReceived.out = s.out := (out_blind.passes s).2.2.2

theorem out_blocks {a b : St} (h : a.out = b.out) : a.blocks = b.blocks ∧ a.lastBlock = b.lastBlock :=
  ⟨congrArg (·.1) h, congrArg (·.2.1) h⟩

/-- what the other passes work on, and `ProcessDecidedRounds` does not write -/
def St.tables (s : St) := (s.events, s.rounds, s.lastRound, s.lowerBound, s.undet, s.topo)

theorem tables_eq {a b : St} (h : b.tables = a.tables) :
    b.events = a.events ∧ b.rounds = a.rounds ∧ b.lastRound = a.lastRound ∧ b.lowerBound = a.lowerBound ∧
      b.undet = a.undet ∧ b.topo = a.topo := by
  simpa only [St.tables, Prod.mk.injEq] using h

theorem addBlock_eq (s : St) (b : Block) : ∃ v ps rep, s.addBlock b =
    { s with blocks := s.blocks ++ [b], lastBlock := s.lastBlock + 1, validators := v, peerSets := ps, repertoire := rep } :=
  applyReceipts_eq { s with blocks := s.blocks ++ [b], lastBlock := s.lastBlock + 1 } b.rr b.itx

theorem addBlock_tables (s : St) (b : Block) : (s.addBlock b).tables = s.tables := by
  obtain ⟨_, _, _, h⟩ := addBlock_eq s b
  rw [h]; rfl

theorem addBlock_blocks (s : St) (b : Block) :
    (s.addBlock b).blocks = s.blocks ++ [b] ∧ (s.addBlock b).lastBlock = s.lastBlock + 1 := by
  obtain ⟨_, _, _, h⟩ := addBlock_eq s b
  rw [h]; exact ⟨rfl, rfl⟩

theorem processOne_tables {s s' : St} (h : s.processOne = some s') : s'.tables = s.tables := by
  obtain ⟨r, rest, ri, _, _, ⟨_, h⟩ | ⟨b, _, h⟩⟩ := processOne_spec h
  · rw [h]; rfl
  · rw [h]; exact addBlock_tables _ b

theorem processOne_pending {s s' : St} (h : s.processOne = some s') :
    ∃ r ri, s.pending = (r, true) :: s'.pending ∧ s.getRound r = some ri := by
  obtain ⟨r, rest, ri, hp, hg, ⟨_, h⟩ | ⟨b, _, h⟩⟩ := processOne_spec h <;> exact ⟨r, ri, by rw [hp, h]; rfl, hg⟩

theorem processLoop_tables (fuel : Nat) (s : St) : (s.processLoop fuel).tables = s.tables :=
  processLoop_rel (Pre.proj St.tables) (fun _ _ => processOne_tables) fuel s

@[simp] theorem update_topo (s : St) (id : String) (f : Ev → Ev) : (s.update id f).topo = s.topo := rfl
@[simp] theorem setRound_topo (s : St) (r : Int) (ri : RoundInfo) : (s.setRound r ri).topo = s.topo := rfl

theorem runConsensus_topo (s : St) : s.runConsensus.topo = s.topo := by
  unfold St.runConsensus St.processDecidedRounds
  rw [(tables_eq (processLoop_tables _ _)).2.2.2.2.2, (topo_blind.passes _).2.2.2, (topo_blind.passes _).2.2.1,
    (topo_blind.passes _).2.1]

theorem insert_pl (s : St) (e : Ev) : (s.insert e).pendingLoaded = s.pendingLoaded + (if e.isLoaded then 1 else 0) := by
  show (s.insertCoords e).pendingLoaded + _ = _
  rw [(pendingLoaded_blind.passes s).1 e]

/-- `DecideRoundReceived` leaves the counter alone (`pendingLoaded_blind`): an event that got its round
    received is still pending until its round is processed (the seeded change C06c moved the decrement
    there: the nodes then report idle while an earlier round is still undecided). -/
theorem processOne_pl (s s' : St) (h : s.processOne = some s') :
    ∃ r ri, s.getRound r = some ri ∧ s.pending.head?.map (·.1) = some r ∧
      s'.pendingLoaded = s.pendingLoaded - (((s.getFrame r ri).2.filter Ev.isLoaded).length : Int) := by
  obtain ⟨r, rest, ri, hp, hg, hs⟩ := processOne_spec h
  refine ⟨r, ri, hg, by rw [hp]; rfl, ?_⟩
  have hframe : (s.addFrame (s.getFrame r ri).1 (s.getFrame r ri).2).pendingLoaded =
      s.pendingLoaded - (((s.getFrame r ri).2.filter Ev.isLoaded).length : Int) := by
    unfold St.addFrame
    split
    · rfl
    · rename_i hne
      have : (s.getFrame r ri).2.length = 0 := by simpa [Gen.cmpFrameNonEmpty, Cmp.evalN] using hne
      rw [List.eq_nil_of_length_eq_zero this]; simp
  rcases hs with ⟨_, hs⟩ | ⟨b, _, hs⟩
  · rw [hs]; exact hframe
  · obtain ⟨_, _, _, hb⟩ := addBlock_eq (s.addFrame (s.getFrame r ri).1 (s.getFrame r ri).2) b
    rw [hs, hb]; exact hframe

end Babble.HG
