import Babble.Proofs.HGBasic
/-! Every pass is a sequence of a few kinds of writes, so a reflexive and transitive relation between
states (`Pre R`) that holds across each write of a pass holds across the pass: one lemma `X_rel` per pass,
with its writes as hypotheses.  An invariant `P` is the relation `fun a b => P a → P b`. -/
namespace Babble.HG

/-- `R` is a preorder on states -/
structure Pre (R : St → St → Prop) : Prop where
  refl : ∀ s, R s s
  trans : ∀ {a b c}, R a b → R b c → R a c

variable {R : St → St → Prop}

theorem Pre.proj {α} (f : St → α) : Pre (fun a b => f b = f a) := ⟨fun _ => rfl, fun h1 h2 => h2.trans h1⟩

theorem Pre.imp (P : St → Prop) : Pre (fun a b => P a → P b) := ⟨fun _ h => h, fun h1 h2 h => h2 (h1 h)⟩

theorem Pre.foldl (hR : Pre R) {α} {f : St → α → St} (h : ∀ s a, R s (f s a)) (l : List α) (s : St) :
    R s (l.foldl f s) := by
  induction l generalizing s with
  | nil => exact hR.refl s
  | cons a l ih => exact hR.trans (h s a) (ih _)

/-- a loop invariant that knows what is still to be looked at -/
theorem foldl_rest {α β} {f : β → α → β} {P : β → List α → Prop} (h : ∀ p x rest, P p (x :: rest) → P (f p x) rest) :
    ∀ (l : List α) (p : β), P p l → P (l.foldl f p) []
  | [], _, hp => hp
  | x :: l, p, hp => foldl_rest h l (f p x) (h p x l hp)

theorem fdWalk_rel (hR : Pre R)
    (hfd : ∀ s ah cr idx, R s (s.update ah (fun a => { a with fd := setAt a.fd cr (some idx) })))
    (s : St) (fuel : Nat) (ah : String) (cr : Nat) (idx : Int) : R s (s.fdWalk fuel ah cr idx) := by
  induction fuel generalizing s ah with
  | zero => exact hR.refl s
  | succ fuel ih =>
    unfold St.fdWalk
    split
    · exact hR.refl s
    · split
      · exact hR.refl s
      · simp only []
        split
        · exact hfd _ _ _ _
        · exact hR.trans (hfd _ _ _ _) (ih _ _)

theorem walk_rel (hR : Pre R)
    (hfd : ∀ s ah cr idx, R s (s.update ah (fun a => { a with fd := setAt a.fd cr (some idx) })))
    (cr : Nat) (idx : Int) (l : List (Option Coord)) (s : St) : R s (l.foldl (walkOne cr idx) s) := by
  refine hR.foldl (fun st c => ?_) _ _
  unfold walkOne
  split
  · exact fdWalk_rel hR hfd _ _ _ _ _
  · exact hR.refl st

/-- The caller says where `R` starts: at `s` if putting the record on top is a step of `R` (`a = s`), or
    at the state with the record on top. -/
theorem insertCoords_rel (hR : Pre R)
    (hfd : ∀ s ah cr idx, R s (s.update ah (fun a => { a with fd := setAt a.fd cr (some idx) })))
    (s : St) (e : Ev) {a : St} (hcons : R a { s with events := s.stored e :: s.events }) : R a (s.insertCoords e) :=
  hR.trans hcons (walk_rel hR hfd _ _ _ _)

/-- A field that `insert` itself writes can be exposed by `show`.  A field it does not write is best
    obtained through this lemma: closing `(s.insert e).f = (s.insertCoords e).f` by `rfl` makes the
    unifier compare the two states first, and unfold the walk. -/
theorem insert_rel (hR : Pre R)
    (hfd : ∀ s ah cr idx, R s (s.update ah (fun a => { a with fd := setAt a.fd cr (some idx) })))
    (hu : ∀ s u t pl, R s { s with undet := u, topo := t, pendingLoaded := pl })
    (s : St) (e : Ev) {a : St} (hcons : R a { s with events := s.stored e :: s.events }) : R a (s.insert e) :=
  hR.trans (insertCoords_rel hR hfd s e hcons) (hu _ _ _ _)

/-- the witness flag `assignRound` stores: `_witness` evaluated right after the round was written -/
def St.assignedWit (s : St) (id : String) (ev : Ev) : Bool :=
  ((s.queueRound (s.computeRound ev) ((s.getRound (s.computeRound ev)).getD {})).update id
    (fun e => { e with round := some (s.computeRound ev) })).computeWitness ev (s.computeRound ev)

theorem assignRound_rel (hR : Pre R)
    (hq : ∀ s p, R s { s with pending := p })
    (hround : ∀ s id r, R s (s.update id (fun e => { e with round := some r })))
    (hset : ∀ s r id w, R s (s.setRound r (((s.getRound r).getD {}).addCreated id w)))
    (hwit : ∀ s id w, R s (s.update id (fun e => { e with wit := some w })))
    (s : St) (id : String) (ev : Ev) : R s (s.assignRound id ev) := by
  unfold St.assignRound
  simp only []
  obtain ⟨p, hp⟩ := queueRound_eq s (s.computeRound ev) ((s.getRound (s.computeRound ev)).getD {})
  rw [hp]
  exact hR.trans (hR.trans (hR.trans (hq s p) (hround _ _ _)) (hset _ _ _ _)) (hwit _ _ _)

theorem assignRound_get (s : St) (id : String) (ev : Ev) (x : String) :
    (s.assignRound id ev).get x = if x = id then (s.get x).map (fun e =>
      { e with round := some (s.computeRound ev), wit := some (s.assignedWit id ev) }) else s.get x := by
  have hq : ∀ r ri, (s.queueRound r ri).get x = s.get x := fun r ri => by
    obtain ⟨p, hp⟩ := queueRound_eq s r ri
    rw [hp]; rfl
  unfold St.assignRound St.assignedWit
  rw [get_update, get_setRound, get_update, hq]
  · split
    · cases s.get x <;> rfl
    · rfl
  · intro e; rfl
  · intro e; rfl

theorem assignLamport_rel (hR : Pre R) (hlam : ∀ s id t, R s (s.update id (fun e => { e with lamport := some t })))
    (s : St) (id : String) : R s (s.assignLamport id) := by
  unfold St.assignLamport
  split
  · exact hR.refl s
  · exact hlam _ _ _

theorem divideOne_rel (hR : Pre R) (hround : ∀ s id ev, R s (s.assignRound id ev)) (hlam : ∀ s id, R s (s.assignLamport id))
    (st : St) (id : String) : R st (divideOne st id) := by
  unfold divideOne
  split
  · exact hR.refl st
  · simp only []
    split <;> split
    · exact hR.trans (hround _ _ _) (hlam _ _)
    · exact hlam _ _
    · exact hround _ _ _
    · exact hR.refl st

theorem divideRounds_rel (hR : Pre R) (hround : ∀ s id ev, R s (s.assignRound id ev)) (hlam : ∀ s id, R s (s.assignLamport id))
    (s : St) : R s s.divideRounds :=
  hR.foldl (divideOne_rel hR hround hlam) _ _

theorem divideOne_none {st : St} {y : String} (hg : st.get y = none) : divideOne st y = st := by
  unfold divideOne; rw [hg]

/-- The record it is called for gets a round and a witness flag if it has no round, and a Lamport
    timestamp if it has none, all computed in the state before; no other record changes. -/
theorem divideOne_get (st : St) (y : String) (ev : Ev) (hg : st.get y = some ev) (x : String) :
    (divideOne st y).get x = if x = y then some
      { ev with round := if ev.round.isNone then some (st.computeRound ev) else ev.round,
                wit := if ev.round.isNone then some (st.assignedWit y ev) else ev.wit,
                lamport := if ev.lamport.isNone then some (lamF st.lamportOf ev.sp ev.op) else ev.lamport } else st.get x := by
  have hround : (st.assignRound y ev).get x = if x = y then
      some { ev with round := some (st.computeRound ev), wit := some (st.assignedWit y ev) } else st.get x := by
    rw [assignRound_get]; split
    · rename_i h; rw [h, hg]; rfl
    · rfl
  -- the Lamport timestamp is computed after the round was stored, from the same timestamps and parents
  have hlam : ∀ (st1 : St) (ev1 : Ev), st1.lamportOf = st.lamportOf → st1.get y = some ev1 →
      (st1.assignLamport y).get x =
        if x = y then some { ev1 with lamport := some (lamF st.lamportOf ev1.sp ev1.op) } else st1.get x := by
    intro st1 ev1 hL h1
    have hc : st1.computeLamport ev1 = lamF st.lamportOf ev1.sp ev1.op := by rw [computeLamport_eq, hL]
    unfold St.assignLamport
    rw [h1]
    rw [get_update st1 y (fun e => { e with lamport := some (st1.computeLamport ev1) }) fun _ => rfl, hc]
    split
    · rename_i h; rw [h, h1]; rfl
    · rfl
  unfold divideOne
  rw [hg]
  by_cases hr : ev.round.isNone = true <;> by_cases hl : ev.lamport.isNone = true <;>
    simp only [hr, hl, if_true, Bool.false_eq_true, if_false]
  · rw [hlam (st.assignRound y ev) { ev with round := some (st.computeRound ev), wit := some (st.assignedWit y ev) } ?_
      (by rw [assignRound_get, if_pos rfl, hg]; rfl), hround]
    · split <;> rfl
    · funext z
      unfold St.lamportOf
      rw [assignRound_get]
      split
      · cases st.get z <;> rfl
      · rfl
  · exact hround
  · rw [hlam st ev rfl hg]
  · split
    · rename_i h; rw [h, hg]
    · rfl

theorem decideFame_rel (hR : Pre R)
    (hset : ∀ s r ri, s.getRound r = some ri →
      R s (s.setRound r ((ri.witnesses.foldl (s.decideWitness r) ri).witnessesDecided (s.peersAt r)).2))
    (hq : ∀ s p, R s { s with pending := p }) (s : St) : R s s.decideFame := by
  have := List.foldlRecOn s.pending decideFameRound (b := (s, [])) (motive := fun p => R s p.1) (hR.refl s)
    fun p h pr _ => by
      refine hR.trans h ?_
      unfold decideFameRound
      simp only []
      split
      · exact hR.refl _
      · exact hset _ _ _ ‹_›
  exact hR.trans this (hq _ _)

theorem rrLoop_spec (hR : Pre R)
    (hlatch : ∀ s i tr, s.getRound i = some tr → i ≤ s.lastRound → R s (s.setRound i (tr.witnessesDecided (s.peersAt i)).2))
    (s : St) (x : String) (fuel : Nat) (i : Int) :
    ((s.rrLoop x fuel i).2 = false ∧ R s (s.rrLoop x fuel i).1) ∨
    ((s.rrLoop x fuel i).2 = true ∧ ∃ s1 j tr, R s s1 ∧ i ≤ j ∧ j ≤ s1.lastRound ∧ s1.getRound j = some tr ∧
      (s.rrLoop x fuel i).1 =
        (s1.update x (fun e => { e with rr := some j })).setRound j { tr with received := tr.received ++ [x] }) := by
  induction fuel generalizing s i with
  | zero => exact Or.inl ⟨rfl, hR.refl s⟩
  | succ fuel ih =>
    -- the search goes on from round `i + 1`, in a state `s'` reached by latch writes
    have next : ∀ s', R s s' →
        ((s'.rrLoop x fuel (i + 1)).2 = false ∧ R s (s'.rrLoop x fuel (i + 1)).1) ∨
        ((s'.rrLoop x fuel (i + 1)).2 = true ∧ ∃ s1 j tr, R s s1 ∧ i ≤ j ∧ j ≤ s1.lastRound ∧ s1.getRound j = some tr ∧
          (s'.rrLoop x fuel (i + 1)).1 =
            (s1.update x (fun e => { e with rr := some j })).setRound j { tr with received := tr.received ++ [x] }) := by
      intro s' h
      rcases ih s' (i + 1) with ⟨h1, h2⟩ | ⟨h1, s1, j, tr, h2, h3, h4⟩
      · exact Or.inl ⟨h1, hR.trans h h2⟩
      · exact Or.inr ⟨h1, s1, j, tr, hR.trans h h2, by omega, h4⟩
    unfold St.rrLoop
    by_cases hgt : i > s.lastRound
    · rw [if_pos hgt]; exact Or.inl ⟨rfl, hR.refl s⟩
    · rw [if_neg hgt]
      cases hg : s.getRound i with
      | none =>
        simp only []
        split
        · exact Or.inl ⟨rfl, hR.refl s⟩
        · split
          · exact Or.inl ⟨rfl, hR.refl s⟩
          · exact next s (hR.refl s)
      | some tr =>
        have h1 := hlatch s i tr hg (by omega)
        by_cases hd : (tr.witnessesDecided (s.peersAt i)).1 = true
        · simp only [hd, Bool.not_true, Bool.false_eq_true, if_false]
          split
          · exact Or.inr ⟨rfl, _, i, _, h1, Int.le_refl i,
              by rw [lastRound_setRound_le _ _ (by omega)]; omega, getRound_setRound_self _ _ _, rfl⟩
          · exact next _ h1
        · simp only [hd, Bool.not_false, if_true]
          split
          · exact Or.inl ⟨rfl, h1⟩
          · split
            · exact Or.inl ⟨rfl, h1⟩
            · exact next _ h1

/-- `P st q` speaks of the state and of the queue as it will be left if nothing more is received: the
    events looked at and kept, then those still to look at. -/
theorem decideRoundReceived_inv {P : St → List String → Prop}
    (hlatch : ∀ st q i tr, st.getRound i = some tr → i ≤ st.lastRound → P st q →
      P (st.setRound i (tr.witnessesDecided (st.peersAt i)).2) q)
    (hrecv : ∀ st q q' x j tr, q.Perm (x :: q') → st.getRound j = some tr → j ≤ st.lastRound → st.roundOf x < j → P st q →
      P ((st.update x (fun e => { e with rr := some j })).setRound j { tr with received := tr.received ++ [x] }) q')
    (hu : ∀ st q, P st q → P { st with undet := q } q) (s : St) (h : P s s.undet) :
    P s.decideRoundReceived s.decideRoundReceived.undet := by
  have := foldl_rest (f := receiveOne) (P := fun p l => P p.1 (p.2 ++ l)) (fun p x rest h => by
    unfold receiveOne
    simp only []
    -- latch writes keep `P` for any queue, and leave the event records (hence `roundOf`) alone
    rcases rrLoop_spec (R := fun a b => (∀ q, P a q → P b q) ∧ b.events = a.events)
        ⟨fun _ => ⟨fun _ h => h, rfl⟩, fun h1 h2 => ⟨fun q h => h2.1 q (h1.1 q h), h2.2.trans h1.2⟩⟩
        (fun st i tr hg hi => ⟨fun q => hlatch st q i tr hg hi, rfl⟩)
        p.1 x (p.1.lastRound - p.1.roundOf x + 1).toNat (p.1.roundOf x + 1) with
      ⟨h0, h1⟩ | ⟨h0, s1, j, tr, h1, h2, h3, h4, h5⟩
    · rw [h0, if_neg (by decide), List.append_assoc]; exact h1.1 _ h
    · rw [h0, h5, if_pos rfl]
      have : s1.roundOf x = p.1.roundOf x := by unfold St.roundOf; rw [get_of_events h1.2]
      exact hrecv s1 _ _ x j tr List.perm_middle h4 h3 (by omega) (h1.1 _ h)) s.undet (s, []) h
  rw [List.append_nil] at this
  exact hu _ _ this

theorem decideRoundReceived_rel (hR : Pre R)
    (hlatch : ∀ s i tr, s.getRound i = some tr → i ≤ s.lastRound → R s (s.setRound i (tr.witnessesDecided (s.peersAt i)).2))
    (hrecv : ∀ s x i tr, s.getRound i = some tr → i ≤ s.lastRound →
      R s ((s.update x (fun e => { e with rr := some i })).setRound i { tr with received := tr.received ++ [x] }))
    (hu : ∀ s u, R s { s with undet := u }) (s : St) : R s s.decideRoundReceived :=
  decideRoundReceived_inv (P := fun st _ => R s st) (fun st _ i tr hg hi h => hR.trans h (hlatch st i tr hg hi))
    (fun st _ _ x j tr _ hg hj _ h => hR.trans h (hrecv st x j tr hg hj)) (fun st q h => hR.trans h (hu st q)) s (hR.refl s)

theorem processOne_spec {s s' : St} (h : s.processOne = some s') :
    ∃ r rest ri, s.pending = (r, true) :: rest ∧ s.getRound r = some ri ∧
      ((blockOf (s.lastBlock + 1) r (s.getFrame r ri).1 (s.getFrame r ri).2 = none ∧
          s' = (s.addFrame (s.getFrame r ri).1 (s.getFrame r ri).2).popPending r rest) ∨
       ∃ b, blockOf (s.lastBlock + 1) r (s.getFrame r ri).1 (s.getFrame r ri).2 = some b ∧
          s' = ((s.addFrame (s.getFrame r ri).1 (s.getFrame r ri).2).addBlock b).popPending r rest) := by
  unfold St.processOne at h
  split at h
  · cases h
  · rename_i r d rest hp
    split at h
    · cases h
    · rename_i hd
      have hd' : d = true := by simpa using hd
      subst hd'
      split at h
      · cases h
      · rename_i ri hg
        refine ⟨r, rest, ri, hp, hg, ?_⟩
        simp only [] at h
        split at h
        · rename_i b hb
          injection h with h
          exact Or.inr ⟨b, hb, h.symm⟩
        · rename_i hb
          injection h with h
          exact Or.inl ⟨hb, h.symm⟩

theorem processLoop_rel (hR : Pre R) (h : ∀ s s', s.processOne = some s' → R s s') (fuel : Nat) (s : St) :
    R s (s.processLoop fuel) := by
  induction fuel generalizing s with
  | zero => exact hR.refl s
  | succ fuel ih =>
    unfold St.processLoop
    split
    · exact hR.refl s
    · exact hR.trans (h _ _ ‹_›) (ih _)

/-- The first three passes are given as facts about the states at hand (they are usually proved from
    an invariant of their start state), one processed round for any state: lemmas meant for `h4` or for
    `processLoop_rel` take `s s'` explicitly. -/
theorem runConsensus_rel (hR : Pre R) {s : St} (h1 : R s s.divideRounds) (h2 : R s.divideRounds s.divideRounds.decideFame)
    (h3 : R s.divideRounds.decideFame s.divideRounds.decideFame.decideRoundReceived)
    (h4 : ∀ s s', s.processOne = some s' → R s s') : R s s.runConsensus :=
  hR.trans (hR.trans (hR.trans h1 h2) h3) (processLoop_rel hR h4 _ _)

theorem insertAndRun_rel (hR : Pre R) {s : St} {e : Ev} (h : s.admission e = none → R s (s.insert e).runConsensus) :
    R s (s.insertAndRun e).1 := by
  cases hadm : s.admission e with
  | some r => rw [insertAndRun_fst_rejected hadm]; exact hR.refl s
  | none => rw [insertAndRun_fst_admitted hadm]; exact h hadm

theorem runAll_rel (hR : Pre R) (h : ∀ s e, R s (s.insertAndRun e).1) (s : St) (es : List Ev) : R s (runAll s es) :=
  hR.foldl h es s

theorem runAll_induction {P : St → Prop} {es : List Ev} (step : ∀ s e, e ∈ es → P s → P (s.insertAndRun e).1) :
    ∀ {s : St}, P s → P (runAll s es) :=
  fun h => List.foldlRecOn es _ h fun s hs e he => step s e he hs

theorem runAll_seen {P : St → List String → Prop} (es : List Ev)
    (hrej : ∀ s seen x, P s seen → P s (seen ++ [x]))
    (hadm : ∀ s seen e, e ∈ es → P s seen → e.id ∉ seen → s.admission e = none →
      P (s.insert e).runConsensus (seen ++ [e.id]))
    (s : St) (seen : List String) (hP : P s seen) (hnd : (seen ++ es.map (·.id)).Nodup) :
    P (runAll s es) (seen ++ es.map (·.id)) := by
  induction es generalizing s seen with
  | nil => rw [runAll_nil, List.map_nil, List.append_nil]; exact hP
  | cons e es ih =>
    have hf : e.id ∉ seen := fun hm => (List.nodup_append.mp hnd).2.2 e.id hm e.id (by simp) rfl
    rw [runAll_cons, List.map_cons, List.append_cons]
    refine ih (fun s seen e he => hadm s seen e (List.mem_cons_of_mem _ he)) _ _ ?_ (by simpa using hnd)
    cases h : s.admission e with
    | some r => rw [insertAndRun_fst_rejected h]; exact hrej s seen e.id hP
    | none => rw [insertAndRun_fst_admitted h]; exact hadm s seen e List.mem_cons_self hP hf h

end Babble.HG
