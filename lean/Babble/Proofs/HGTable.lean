import Babble.Proofs.PeerSets
import Babble.Proofs.HGRounds
/-! The validator-set table of the operational model is `buildTable` of its delivered blocks, and the
    delivered blocks are `Increasing`: the replay theorem of C10 applies to every reachable state of a
    node started from genesis. -/
namespace Babble.HG

def pb (b : Block) : PBlock := (b.rr, b.itx)

def TblInv (g : List Nat) (s : St) : Prop :=
  (s.peerSets, s.validators) = buildTable g (s.blocks.map pb)

theorem applyReceipts_tableStep (s : St) (rr : Int) (itxs : List (Bool × Nat)) :
    ((s.applyReceipts rr itxs).peerSets, (s.applyReceipts rr itxs).validators) =
      tableStep (s.peerSets, s.validators) (rr, itxs) := by
  unfold St.applyReceipts tableStep
  by_cases h : itxs.isEmpty = true
  · simp [h]
  · simp only [h]
    by_cases h2 : (s.peerSets.any (·.1 == Gen.effectiveRound rr)) = true
    · simp [h2]
    · simp [h2]

theorem buildTable_snoc (g : List Nat) (bs : List PBlock) (b : PBlock) :
    buildTable g (bs ++ [b]) = tableStep (buildTable g bs) b := by
  unfold buildTable; rw [List.foldl_append]; rfl

theorem tblInv_of_out {g : List Nat} {a b : St} (h : b.out = a.out) (hI : TblInv g a) : TblInv g b := by
  unfold TblInv at hI ⊢
  have h1 : b.blocks = a.blocks := congrArg (·.1) h
  have h2 : b.peerSets = a.peerSets := congrArg (·.2.2.1) h
  have h3 : b.validators = a.validators := congrArg (·.2.2.2.1) h
  rw [h1, h2, h3]; exact hI

theorem processOne_tbl (g : List Nat) (s s' : St) (h : s.processOne = some s') (hI : TblInv g s) : TblInv g s' := by
  obtain ⟨r, rest, ri, _, _, ⟨_, hs⟩ | ⟨b, _, hs⟩⟩ := processOne_spec h
  · rw [hs]; exact hI
  · rw [hs]
    show ((St.addBlock _ b).peerSets, (St.addBlock _ b).validators) = buildTable g ((St.addBlock _ b).blocks.map pb)
    rw [(addBlock_blocks _ b).1]
    unfold St.addBlock
    rw [applyReceipts_tableStep]
    show tableStep (s.peerSets, s.validators) (b.rr, b.itx) = buildTable g ((s.blocks ++ [b]).map pb)
    rw [List.map_append, List.map_cons, List.map_nil, buildTable_snoc, ← hI]
    rfl

theorem runAll_tbl (g : List Nat) (s : St) (es : List Ev) (hI : TblInv g s) : TblInv g (runAll s es) :=
  runAll_rel (Pre.imp (TblInv g)) (fun s e => insertAndRun_rel (Pre.imp (TblInv g)) fun _ hI =>
    runConsensus_rel (Pre.imp (TblInv g)) (tblInv_of_out (divideRounds_out _)) (tblInv_of_out (decideFame_out _))
      (tblInv_of_out (decideRoundReceived_out _)) (processOne_tbl g) (tblInv_of_out (insert_out s e) hI)) s es hI

theorem init_tbl (g : List Nat) : TblInv g (St.init g) := rfl

theorem increasing_of_pairwise (bs : List PBlock) (h0 : ∀ b ∈ bs, 0 ≤ b.1)
    (hp : bs.Pairwise (fun a b => a.1 < b.1)) : Increasing bs := by
  induction bs with
  | nil => trivial
  | cons b t ih =>
    rw [List.pairwise_cons] at hp
    exact ⟨h0 b List.mem_cons_self, hp.1, ih (fun c hc => h0 c (List.mem_cons_of_mem _ hc)) hp.2⟩

theorem runAll_increasing (g : List Nat) (es : List Ev) (hes : ∀ e ∈ es, e.round = none) :
    Increasing ((runAll (St.init g) es).blocks.map pb) := by
  have hI := runAll_rinv _ es (init_rinv g) hes
  apply increasing_of_pairwise
  · intro b hb
    obtain ⟨b', hb', rfl⟩ := List.mem_map.mp hb
    exact (hI.bound _ (List.mem_append_left _ (List.mem_map_of_mem hb'))).1
  · rw [List.pairwise_map]; exact blocks_rr_increasing g es hes

end Babble.HG
