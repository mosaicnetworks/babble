import Babble.Proofs.Vote
import Babble.Proofs.HGBlocks
import Babble.Proofs.DagViews
/-! # C01 — agreement
    What is proved here (unbounded in the number of validators, witnesses, rounds, and for every
    order in which deciders are met):

    * the vote core of `DecideFame` (Babble's tally rule, with the comparison operators, the
      supermajority formula and the coin period regenerated from the Go source): any two decisions
      about the fame of one witness agree, whichever witnesses decide and at whichever rounds
      (`fame_decisions_agree`), and a witness unknown to a supermajority of first-round voters can
      never be decided famous (`late_witness_never_famous`, the justification of the `decided` latch);
    * delivered blocks form an append-only sequence with consecutive indexes on every node (from
      C02), so "prefix-consistent at every instant" follows from agreement of the final sequences.

    * `agreement_static_fame`, `latch_sound`, `famous_sets_agree` (static validator set): for the
      declarative model `Babble.Dag` — events as hash-linked trees, round / witness / strongly-see /
      votes / decisions defined by `Dag.info` exactly as `hashgraph.go` computes them for a node that
      runs the passes after every insertion, and compared with the Go code on every static view of
      every generated history — the vote system of any fork-free history is an instance of the
      abstract vote core, so the two results above hold of the recorded decisions, whichever nodes
      hold the deciders; hence `round_received_agrees` and `frames_agree` (the block body is then the
      canonical sort of the frame, C03/C04).  The declarative
      `DecideRoundReceived` (`Dag.rrFrom`) and Lamport timestamps are compared with the Go code too.

    NOT proved (decided by correspondence + oracle only): the refinement from the operational model
    `Babble.HG` (coordinates, stored tables) to `Babble.Dag` — both are compared with the Go code
    and with each other on every generated static view —, and agreement under validator-set changes
    (`agreement_dynamic`).  See DESIGN.md §3 C01. -/
namespace Babble.Props.C01
open Babble Babble.Vote

variable {W : Type} [DecidableEq W]

/-- any two fame decisions for the same candidate agree, whatever the deciders and their rounds;
    stated for the rule written with the generated operators (`decidesAtG`) -/
theorem fame_decisions_agree (V : VoteSys W) (d d' : Nat) (y y' : W)
    (hy : V.lvl y = d + 1) (hy' : V.lvl y' = d' + 1) (b b' : Bool)
    (h : V.decidesAtG d y = some b) (h' : V.decidesAtG d' y' = some b') : b = b' := by
  rw [V.decidesAtG_eq] at h h'
  exact V.decisions_agree d d' y y' hy hy' b b' h h'

/-- the latch lemma: if a supermajority of first-round voters do not see the candidate, every
    decision about it, at any later round and by any decider, is "not famous" -/
theorem late_witness_never_famous (V : VoteSys W)
    (T : Finset W) (hTl : ∀ w ∈ T, V.lvl w = 0) (hTv : ∀ w ∈ T, V.sees w = false)
    (hTc : Gen.superMajority V.n ≤ T.card)
    (d : Nat) (y : W) (hy : V.lvl y = d + 1) (b : Bool) (hd : V.decidesAtG d y = some b) : b = false := by
  rw [V.decidesAtG_eq] at hd
  rw [V.gen_sm] at hTc
  exact V.late_witness_never_famous T hTl hTv hTc d y hy b hd

/-- the second voting round (diff = 2) is a normal round for the generated coin period: the latch
    lemma's first step never falls on a coin round -/
theorem second_round_is_normal : normalLvl 1 = true := normal_one

/-- delivered blocks of one node at two instants are prefix-related (from C02), so agreement of the
    sequences two nodes hold at the end of a schedule gives agreement at every instant -/
theorem own_history_prefix (s : HG.St) (es es' : List HG.Ev) :
    ∃ new, (HG.runAll s (es ++ es')).blocks = (HG.runAll s es).blocks ++ new := by
  rw [HG.runAll_append]
  obtain ⟨new, h, _⟩ := HG.runAll_extends (HG.runAll s es) es'
  exact ⟨new, h⟩

/-- **agreement_static (fame)**: in a fork-free history `U` (closed under ancestors, ids = hashes
    injective), any two witnesses that decide the fame of witness `x` decide the same value -/
theorem agreement_static_fame {ps : List Nat} {U : Dag.E → Prop} (H : Dag.Hist ps U) {x y y' : Dag.E}
    (hx : U x) (hy : U y) (hy' : U y') {b b' : Bool}
    (h : Dag.decision ps y x = some b) (h' : Dag.decision ps y' x = some b') : b = b' :=
  Dag.dag_fame_agreement H hx hy hy' h h'

/-- **latch_sound**: a node whose view `V` has declared round `r` decided never needs to look at
    round `r` again — a witness of `r` it does not hold is not famous for anybody, ever -/
theorem latch_sound {ps : List Nat} {U V : Dag.E → Prop} (H : Dag.Hist ps U) (hV : Dag.View V U) {r : Int}
    (hdec : Dag.RoundDecided ps V r) {x' : Dag.E} (hx' : U x') (hr' : Dag.round ps x' = r) (hnot : ¬ V x') :
    ∀ y, U y → Dag.decision ps y x' ≠ some true :=
  Dag.dag_late_witness_not_famous H hV hdec hx' hr' hnot

/-- **famous_sets_agree**: two nodes (views `A`, `B` of one fork-free history, neither need contain
    the other) that both declared round `r` decided have the same famous witnesses of `r` -/
theorem famous_sets_agree {ps : List Nat} {U A B : Dag.E → Prop} (H : Dag.Hist ps U)
    (hA : Dag.View A U) (hB : Dag.View B U) {r : Int}
    (dA : Dag.RoundDecided ps A r) (dB : Dag.RoundDecided ps B r) (x : Dag.E) :
    Dag.FamousIn ps A r x ↔ Dag.FamousIn ps B r x :=
  Dag.famous_agree H hA hB dA dB x

/-- **round_received_agrees**: two nodes that both assign a round received to an event assign the
    same one (`k` = the supermajority the Go code asks of the number of famous witnesses) -/
theorem round_received_agrees {ps : List Nat} {U A B : Dag.E → Prop} (H : Dag.Hist ps U)
    (hA : Dag.View A U) (hB : Dag.View B U) {k : Nat} {e : Dag.E} {i j : Int}
    (hi : Dag.RoundReceived ps A k e i) (hj : Dag.RoundReceived ps B k e j) : i = j :=
  Dag.round_received_agree H hA hB hi hj

/-- **frames_agree**: the events a node receives in round `i` are received in round `i` by every
    node that has decided the rounds in between — and such a node holds them: the frame of a round,
    hence the block made from it, has the same events everywhere -/
theorem frames_agree {ps : List Nat} {U A B : Dag.E → Prop} (H : Dag.Hist ps U)
    (hA : Dag.View A U) (hB : Dag.View B U) {k : Nat} (hk : 1 ≤ k) {e : Dag.E} {i : Int}
    (hi : Dag.RoundReceived ps A k e i)
    (dB : ∀ j, Dag.round ps e < j → j ≤ i → Dag.RoundDecided ps B j) :
    B e ∧ Dag.RoundReceived ps B k e i :=
  Dag.round_received_transfer H hA hB hk hi dB

/-- non-vacuity: a one-event history is a history (larger ones are evaluated, not proved: every
    static view of every generated DAG goes through `Dag.build`, see the correspondence run) -/
example : Dag.Hist [0] (fun e => e = Dag.E.mk 1 0 .nil .nil false) where
  idInj := by intro a b ha hb _; rw [ha, hb]
  dc := by
    intro e a he ha; subst he
    rcases Dag.anc_mk.mp ha with h | h | h
    · exact h
    · exact absurd h (Dag.anc_nil_right a)
    · exact absurd h (Dag.anc_nil_right a)
  forkFree := by
    intro a b ha hb _; subst ha; subst hb
    exact Or.inl List.mem_cons_self

/-- non-vacuity of the vote system: one validator, two witnesses (levels 0 and 1); the level-1
    witness strongly sees the level-0 one and decides what it voted -/
def tiny : VoteSys (Fin 2) where
  n := 1
  lvl := fun w => w.val
  creator := fun _ => 0
  creator_inj := by
    intro a b h _; exact Fin.ext h
  S := fun y => if y = 1 then {0} else ∅
  S_lvl := by
    intro y w hw
    by_cases hy : y = 1
    · subst hy; simp at hw; subst hw; rfl
    · simp [hy] at hw
  S_cardG := by
    intro y hy
    have : y = 1 := by
      apply Fin.ext
      have := y.isLt
      simp at hy ⊢
      omega
    subst this; decide
  sees := fun _ => true
  coin := fun _ => false

example : tiny.decidesAtG 0 1 = some true := by decide

end Babble.Props.C01
