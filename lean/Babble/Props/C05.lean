import Babble.Model.Core
import Babble.Proofs.HGOrder
import Babble.Proofs.HGReceived
/-! # C05 — transaction integrity (PARTIAL)
    About `Babble.Core`, the model of a node's transaction pool.  The strongest form holds: what a node
    accepted is, as a *list*, exactly the concatenation of the payloads of its own events followed by
    what is still pending — nothing dropped, duplicated or reordered, whatever the interleaving of
    submissions, successful and failed self-events, and refills during insertion.

    Excluded by hypothesis (`selfEventFail` = the event did not enter the DAG): the case where
    `InsertEvent` succeeded but a later consensus pass of the same call returned an error; the Go code
    then keeps the pool although the event is in the DAG.  Such errors only arise from store failures
    below the supported cache range (C03).  Concurrency of the refill path is runtime. -/
namespace Babble.Props.C05
open Babble.Core

/-- **pool_conservation** (with **placed_once**): accepted = placed ++ pending, as lists -/
theorem pool_conservation (ops : List Op) :
    (run ops).submitted = (run ops).placed.flatten ++ (run ops).pool :=
  List.foldlRecOn (motive := fun s => s.submitted = s.placed.flatten ++ s.pool) ops step rfl fun s h op _ => by
    cases op with
    | submit tx => simp [step, h]
    | selfEventOk refill => simp [step, h]
    | selfEventFail => exact h

/-- **failed_insert_keeps_pool**: a self-event that did not enter the DAG takes nothing out of the
    pool and places nothing -/
theorem failed_insert_keeps_pool (s : CoreSt) : (step s .selfEventFail).pool = s.pool ∧ (step s .selfEventFail).placed = s.placed := ⟨rfl, rfl⟩

/-- a transaction accepted by a node is pending or in exactly one of its events: the number of
    occurrences is preserved -/
theorem occurrences_preserved (ops : List Op) (tx : Nat) :
    (run ops).submitted.count tx = (run ops).placed.flatten.count tx + (run ops).pool.count tx := by
  rw [pool_conservation, List.count_append]

/-- a self-event carries the pending transactions in submission order (contiguously, C04 then keeps
    them contiguous in the block) -/
theorem self_event_payload (s : CoreSt) (refill : List Nat) :
    (step s (.selfEventOk refill)).placed = s.placed ++ [s.pool] ∧ (step s (.selfEventOk refill)).pool = refill :=
  -- the pool grown by `refill` during the insertion, trimmed by the length it had before
  ⟨rfl, List.drop_left⟩

/-- committed payload comes from events: a block's transactions are the concatenation of its events'
    transactions (C04), so every committed transaction was placed by its creator -/
theorem committed_from_events (index r : Int) (frame : Babble.HG.Frame) (sorted : List Babble.HG.Ev) (b : Babble.HG.Block)
    (h : Babble.HG.blockOf index r frame sorted = some b) (tx : Nat) (htx : tx ∈ b.txs) :
    ∃ e ∈ sorted, tx ∈ e.txs := by
  rw [Babble.HG.blockOf_some h] at htx
  obtain ⟨l, hl, hm⟩ := List.mem_flatten.mp htx
  obtain ⟨e, he, rfl⟩ := List.mem_map.mp hl
  exact ⟨e, he, hm⟩

/-- **no payload is committed twice on a node**: the events of the delivered blocks are pairwise
    distinct (operational model, every insertion history from genesis), so — a block's transactions
    being the concatenation of its events' payloads (`committed_from_events`) and a submitted
    transaction being placed in exactly one event of the node that accepted it (`pool_conservation`) —
    an occurrence of a transaction reaches the application at most once. -/
theorem no_event_payload_committed_twice (g : List Nat) (es : List Babble.HG.Ev) (hes : ∀ e ∈ es, e.round = none)
    (hnd : (es.map (·.id)).Nodup) :
    (∀ b ∈ (Babble.HG.runAll (Babble.HG.St.init g) es).blocks, b.events.Nodup) ∧
    (Babble.HG.runAll (Babble.HG.St.init g) es).blocks.Pairwise (fun a b => ∀ x ∈ a.events, x ∉ b.events) :=
  Babble.HG.committed_once g es hes hnd

example : (run [.submit 1, .submit 2, .selfEventFail, .submit 2, .selfEventOk [9], .submit 3]).placed = [[1, 2, 2]] := by decide
example : (run [.submit 1, .submit 2, .selfEventFail, .submit 2, .selfEventOk [9], .submit 3]).pool = [9, 3] := by decide

end Babble.Props.C05
