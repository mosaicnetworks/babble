import Babble.Proofs.HGRounds
/-! # C02 — finality: blocks are delivered once, in order, and never change
    Statements about the operational model `Babble.HG` (tied to `hashgraph.go` by the correspondence
    run of the C02 check): `runAll s es` is a node's life — any sequence of insertion attempts, each
    followed by the consensus passes (`InsertEventAndRunConsensus`), with any validator-set behaviour
    and any (also inadmissible) events.  No BFT argument is needed: plain invariants of the passes. -/
namespace Babble.Props.C02
open Babble Babble.HG

/-- every insertion attempt (accepted or not) only appends to the delivered block sequence:
    a delivered block is never changed, removed or reordered -/
theorem blocks_append_only (s : St) (e : Ev) :
    ∃ new, (s.insertAndRun e).1.blocks = s.blocks ++ new :=
  let ⟨new, h, _⟩ := insertAndRun_extends s e; ⟨new, h⟩

/-- over a whole history: what was delivered after a prefix of the history is a prefix of what is
    delivered after the whole history -/
theorem delivered_prefix_stable (s : St) (es es' : List Ev) :
    ∃ new, (runAll s (es ++ es')).blocks = (runAll s es).blocks ++ new := by
  rw [runAll_append]
  obtain ⟨new, h, _⟩ := runAll_extends (runAll s es) es'
  exact ⟨new, h⟩

/-- `InsertEvent` and the three passes before `ProcessDecidedRounds` never touch delivered blocks,
    the validator-set table or the frames -/
theorem only_process_delivers (s : St) (e : Ev) :
    (s.insert e).out = s.out ∧ s.divideRounds.out = s.out ∧ s.decideFame.out = s.out ∧
    s.decideRoundReceived.out = s.out :=
  ⟨insert_out s e, divideRounds_out s, decideFame_out s, decideRoundReceived_out s⟩

/-- one step of `ProcessDecidedRounds` delivers at most one block; its index is the successor of the
    last delivered index and its round received is the first pending round -/
theorem one_block_per_round (s s' : St) (h : s.processOne = some s') :
    (s'.blocks = s.blocks ∧ s'.lastBlock = s.lastBlock) ∨
    (∃ b, s'.blocks = s.blocks ++ [b] ∧ b.index = s.lastBlock + 1 ∧ s'.lastBlock = s.lastBlock + 1 ∧
          s.pending.head?.map (·.1) = some b.rr) := processOne_blocks s s' h

/-- block indexes are strictly consecutive, starting at 0 for a node started from genesis:
    the i-th delivered block has index i, whatever the history -/
theorem block_indexes_consecutive (genesis : List Nat) (es : List Ev) (i : Nat)
    (hi : i < (runAll (St.init genesis) es).blocks.length) :
    ((runAll (St.init genesis) es).blocks[i]).index = i := by
  have h := (runAll_extends (St.init genesis) es).blkInv (init_blkInv genesis)
  have := consec_getElem 0 _ h.1 i hi
  simpa using this

/-- … and starting at the anchor's index for a node that was reset from a fast-sync frame:
    the anchor block is position 0, the next delivered block has index anchor + 1, and so on -/
theorem block_indexes_consecutive_after_reset (blk : Block) (fr : Frame) (lookup : String → Option Ev)
    (es : List Ev) (i : Nat) (hi : i < (runAll (resetFrom blk fr lookup) es).blocks.length) :
    ((runAll (resetFrom blk fr lookup) es).blocks[i]).index = blk.index + i := by
  have h0 : BlkInv blk.index (resetFrom blk fr lookup) := by
    unfold resetFrom
    unfold BlkInv
    rw [(applyReceipts_blocks _ _ _).1, (applyReceipts_blocks _ _ _).2]
    simp [consec]
  have h := (runAll_extends _ es).blkInv h0
  exact consec_getElem blk.index _ h.1 i hi

/-- `lastBlock` (what `Store.LastBlockIndex` reports) is always the index of the last delivered block -/
theorem last_block_index (genesis : List Nat) (es : List Ev) :
    (runAll (St.init genesis) es).lastBlock = ((runAll (St.init genesis) es).blocks.length : Int) - 1 := by
  have := ((runAll_extends (St.init genesis) es).blkInv (init_blkInv genesis)).2; omega

/-- **a block's round received is strictly greater than that of the previous block**: for a node
    started from genesis and every sequence of insertion attempts of fresh events (admissible or
    not, any validator-set behaviour).  The invariant behind it (`HG.RInv`): rounds are created
    contiguously, each is queued exactly once — when its first event is divided — behind everything
    pending, the `decided` latch is never cleared, and `ProcessDecidedRounds` consumes the queue
    from its head; a late witness therefore never re-opens or re-orders a processed round -/
theorem round_received_strictly_increasing (genesis : List Nat) (es : List Ev)
    (hes : ∀ e ∈ es, e.round = none) :
    (runAll (St.init genesis) es).blocks.Pairwise (fun a b => a.rr < b.rr) :=
  blocks_rr_increasing genesis es hes

/-- … in particular two delivered blocks never have the same round received -/
theorem one_block_per_round_received (genesis : List Nat) (es : List Ev) (hes : ∀ e ∈ es, e.round = none)
    (i j : Nat) (hi : i < (runAll (St.init genesis) es).blocks.length) (hj : j < (runAll (St.init genesis) es).blocks.length)
    (h : ((runAll (St.init genesis) es).blocks[i]).rr = ((runAll (St.init genesis) es).blocks[j]).rr) : i = j := by
  have hp := round_received_strictly_increasing genesis es hes
  rcases Nat.lt_trichotomy i j with hlt | heq | hgt
  · have := List.pairwise_iff_getElem.mp hp i j hi hj hlt; omega
  · exact heq
  · have := List.pairwise_iff_getElem.mp hp j i hj hi hgt; omega

/-- non-vacuity of the premise: the invariant holds in the initial state (that reachable states with
    delivered blocks exist is seen by evaluation in the correspondence run: a single validator whose
    two events carry a transaction, the second event decides round 0) -/
example : BlkInv 0 (St.init [0, 1, 2, 3]) := init_blkInv _

end Babble.Props.C02
