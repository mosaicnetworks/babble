import Babble.Proofs.Containers
/-! # C16 — store fidelity: the containers behind the store are exact partial views of a plain map
    `RollingIndex` (per-participant event listings, consensus cache) and `LRU` (events, rounds,
    blocks, frames) are modelled in `Babble.Containers` and tied to `src/common` by the C16
    correspondence run (random and exhaustive-small operation sequences, Go vs model).  The store
    itself (InmemStore/BadgerStore: caches in front of a durable key-value map, close/reopen) is
    compared against a trivially correct reference in Go by the same check; its Lean model is the
    composition of these containers and is not separately proved (see DESIGN.md §3 C16). -/
namespace Babble.Props.C16
open Babble.Containers

variable {α : Type}

/-- one `Set` attempt on a rolling index and on the reference log (latest successful write per index) -/
def riStep (p : RI α × (Int → Option α)) (op : α × Int) : RI α × (Int → Option α) :=
  match p.1.set op.1 op.2 with
  | .ok r' => (r', fun j => if j = op.2 then some op.1 else p.2 j)
  | .error _ => p

/-- from its oldest index on, the rolling index is the reference log -/
def RExact (p : RI α × (Int → Option α)) : Prop := RI.Reg p.1 ∧ ∀ j, p.1.oldest ≤ j → p.1.view j = p.2 j

theorem rexact_step (p : RI α × (Int → Option α)) (op : α × Int) (hi : 0 ≤ op.2) (h : RExact p) :
    RExact (riStep p op) := by
  unfold riStep
  cases hs : p.1.set op.1 op.2 with
  | error e => exact h
  | ok r' =>
    refine ⟨RI.set_reg h.1 hi hs, fun j hj => ?_⟩
    rw [RI.view_set h.1 hs, if_pos hj]
    show (if j = op.2 then some op.1 else p.1.view j) = (if j = op.2 then some op.1 else p.2 j)
    split
    · rfl
    · exact h.2 j (Int.le_trans (RI.oldest_le_of_set hi hs) hj)

/-- **rolling_index_window**: after any sequence of `Set` attempts with non-negative indexes (valid,
    skipping, too late, replacing), whatever a `RollingIndex` of any size still holds at index `j` is
    the latest item successfully written at `j`; `GetItem` answers exactly from that window. -/
theorem rolling_index_window (size : Nat) (ops : List (α × Int)) (hops : ∀ op ∈ ops, 0 ≤ op.2) (j : Int) (x : α) :
    let p := ops.foldl riStep (RI.new size, fun _ => none)
    (p.1.getItem j = .ok x → p.2 j = some x) ∧ RI.Reg p.1 := by
  have h : RExact (ops.foldl riStep (RI.new size, fun _ => (none : Option α))) :=
    List.foldlRecOn ops riStep ⟨RI.reg_new size, fun j _ => RI.view_none_of_nil _ j rfl⟩
      fun p hp op hop => rexact_step p op (hops op hop) hp
  refine ⟨fun hg => ?_, h.1⟩
  -- `GetItem` answers from the window, which lies at and above the oldest index
  have hv := (RI.getItem_ok_iff _ j x).mp hg
  by_cases hj : (ops.foldl riStep (RI.new size, fun _ => none)).1.oldest ≤ j
  · rw [← h.2 j hj]; exact hv
  · rw [RI.view_none_of_lt _ _ (Int.not_le.mp hj)] at hv; cases hv

/-- capacity: a rolling index of size ≥ 2 never holds more than `size` items -/
theorem rolling_index_bounded (size : Nat) (hs : 2 ≤ size) (ops : List (α × Int)) :
    (ops.foldl riStep (RI.new size, fun _ => none)).1.items.length ≤ size :=
  (List.foldlRecOn (motive := fun p => p.1.size = size ∧ p.1.items.length ≤ size) ops riStep
    (b := (RI.new size, fun _ => none)) ⟨rfl, Nat.zero_le _⟩ fun p hp op _ => by
      unfold riStep
      cases hset : p.1.set op.1 op.2 with
      | error e => exact hp
      | ok r' => exact RI.set_len hs hp hset).2

variable {κ ν : Type} [DecidableEq κ]

/-- **lru_is_partial_map**: every value an LRU cache of any capacity returns, after any sequence of
    Add / Get / Remove, is the latest value a plain map holds for that key -/
theorem lru_is_partial_map (ops : List (LOp κ ν)) (size : Nat) (k : κ) (v : ν)
    (h : (ops.foldl lruStep (LRU.new size)).lookup k = some v) :
    (ops.foldl mapStep (fun _ => none)) k = some v :=
  List.foldl_rel (r := Sim) (fun _ _ h => by cases h) (fun op _ c m => sim_step c m op) k v h

/-- an LRU never holds a key twice nor more than `size` entries -/
theorem lru_bounded (ops : List (LOp κ ν)) (size : Nat) :
    ((ops.foldl lruStep (LRU.new size)).items.map (·.1)).Nodup ∧
    (ops.foldl lruStep (LRU.new size)).items.length ≤ (ops.foldl lruStep (LRU.new size)).size :=
  List.foldlRecOn ops lruStep (LRU.inv_new size) fun c h op _ => by
    cases op with
    | add k v => exact LRU.add_inv c k v h
    | get k => exact LRU.get_inv c k h
    | remove k => exact LRU.remove_inv c k h

/-- what was just added is readable (capacity ≥ 1): a write is never lost immediately -/
theorem lru_read_your_write (c : LRU κ ν) (k : κ) (v : ν) (hs : 1 ≤ c.size) (h : LRU.Inv c) :
    (c.add k v).1.lookup k = some v := LRU.lookup_add_same c k v hs

/-- non-vacuity: a size-2 rolling index after four appends holds indexes 2 and 3 -/
example : ((([(10, 0), (11, 1), (12, 2), (13, 3)] : List (Nat × Int)).foldl riStep (RI.new 2, fun _ => none)).1.getItem 3) = .ok 13 := by
  rfl
example : ((([(10, 0), (11, 1), (12, 2), (13, 3)] : List (Nat × Int)).foldl riStep (RI.new 2, fun _ => none)).1.getItem 0) = .error .tooLate := by
  rfl

end Babble.Props.C16
