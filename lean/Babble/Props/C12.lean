import Babble.Model.FastForward
import Babble.Proofs.ByteCodec
import Babble.Proofs.Quorum
import Babble.Proofs.ListFacts
/-! # C12 — fast-sync acceptance
    About `Babble.FF.accept`, the model of `core.checkFastForward` assembled from the check order,
    threshold formula and comparison operator regenerated from the Go sources. -/
namespace Babble.Props.C12
open Babble Babble.FF

/-- **ff_accept_iff**: a response is accepted iff it is structurally sound, the frame's validator
    set hashes to the block's peer-set hash, the frame hashes to the block's frame hash, strictly
    more than TrustCount *distinct* members of that set have a verifying signature, and one of them
    is a validator the node already knows -/
theorem ff_accept_iff (i : In) :
    accept i = true ↔
      i.structOk = true ∧ i.peersHashOk = true ∧ i.frameHashOk = true ∧
      (validSigners i.entries).length > Gen.trustCount i.lenPeers i.members ∧ 0 < i.trusted := by
  unfold accept Gen.coreCheckSteps
  simp only [List.all_cons, List.all_nil, Bool.and_true, stepOk, checkBlock, Gen.cmpCheckBlockReject, Cmp.evalN,
    Bool.and_eq_true, Bool.not_eq_true', decide_eq_false_iff_not, decide_eq_true_eq]
  constructor
  · rintro ⟨h1, ⟨h2, h3⟩, h4, h5⟩; exact ⟨h1, h2, h4, Nat.not_le.mp h3, h5⟩
  · rintro ⟨h1, h2, h3, h4, h5⟩; exact ⟨h1, ⟨h2, Nat.not_le.mpr h4⟩, h3, h5⟩

/-- with a duplicate-free peer list, acceptance needs strictly more than a third of the members as
    distinct valid signers (any signature for a single-member set) -/
theorem accepted_has_more_than_third (i : In) (h : accept i = true) (hm : i.lenPeers = i.members) (hn : 1 ≤ i.members) :
    3 * (validSigners i.entries).length > i.members := by
  obtain ⟨-, -, -, this, -⟩ := (ff_accept_iff i).mp h
  rw [hm] at this
  exact Gen.lt_of_trustCount_lt _ _ this

/-- the same signer presented under any number of map keys is counted once: the counted signers
    are pairwise distinct members -/
theorem valid_signers_distinct (es : List Entry) : (validSigners es).Nodup :=
  List.foldlRecOn es _ List.nodup_nil fun acc h e _ => by
    split
    · exact nodup_snoc_unless _ _ h
    · exact h

/-- every counted signer is named by an entry that verifies: signatures over other bodies, by
    non-members or malformed ones never count -/
theorem valid_signers_verify (es : List Entry) (m : Nat) (h : m ∈ validSigners es) :
    ∃ e ∈ es, e.signer = some m ∧ e.verifies = true := by
  refine List.foldlRecOn (motive := fun acc => ∀ k ∈ acc, ∃ e ∈ es, e.signer = some k ∧ e.verifies = true)
    es _ (fun _ h => absurd h List.not_mem_nil) (fun acc ih e he k hk => ?_) m h
  split at hk
  · rename_i hs hv
    rcases (mem_snoc_unless _ _ _).mp hk with h | rfl
    · exact ih k h
    · exact ⟨e, he, hs, hv⟩
  · exact ih k hk

/-- every single-field tampering of a valid response that breaks one of the hashed relations is
    refused: a changed frame (any field of events, roots, peer sets, round, timestamp) breaks the frame
    hash; a changed peer list breaks the peer-set hash; a changed block body invalidates every
    signature (hash injectivity and signatures covering the body are the trusted base) -/
theorem ff_tamper_refused (i : In)
    (h : i.frameHashOk = false ∨ i.peersHashOk = false ∨ i.structOk = false ∨ validSigners i.entries = []) :
    accept i = false := by
  rw [← Bool.not_eq_true, ff_accept_iff]
  rintro ⟨h1, h2, h3, h4, -⟩
  rcases h with h | h | h | h
  · exact Bool.false_ne_true (h.symm.trans h3)
  · exact Bool.false_ne_true (h.symm.trans h2)
  · exact Bool.false_ne_true (h.symm.trans h1)
  · rw [h] at h4
    exact Nat.not_lt_zero _ h4

/-- a refused response leaves everything untouched: in `core.fastForward` nothing precedes the
    checks, and in `Node.fastForward` the application is restored only after them (orders
    regenerated from the sources) -/
theorem ff_refused_is_noop :
    Gen.coreFFSteps.head? = some FFStep.check ∧
    Gen.nodeFFSteps.takeWhile (· ≠ FFStep.restore) = [FFStep.check] ∧
    FFStep.reset ∉ Gen.coreCheckSteps ∧ FFStep.restore ∉ Gen.coreCheckSteps ∧ FFStep.setPeers ∉ Gen.coreCheckSteps := by
  decide

/-- non-vacuity: three of five members sign (one of them twice under another spelling) -/
example : accept { structOk := true, peersHashOk := true, frameHashOk := true, lenPeers := 5, members := 5, trusted := 3,
                   entries := [⟨some 0, true⟩, ⟨some 0, true⟩, ⟨some 3, true⟩, ⟨some 4, true⟩, ⟨none, true⟩] } = true := by decide
/-- the pre-repair witness: one signer under five spellings is refused -/
example : accept { structOk := true, peersHashOk := true, frameHashOk := true, lenPeers := 5, members := 5, trusted := 1,
                   entries := [⟨some 3, true⟩, ⟨some 3, true⟩, ⟨some 3, true⟩, ⟨some 3, true⟩, ⟨some 3, true⟩] } = false := by decide

/-! The signature map of a block is keyed by *strings*.  `DecodeFromString` never looks at the first
    two bytes and accepts both cases, so one public key has at least 2·256² spellings that decode to
    the same bytes; counting map entries therefore counts nothing (defect D8).  The acceptance model
    counts `validSigners` by the member the decoded key *denotes* (`Entry.signer : Option Nat`), and
    these theorems are why it has to. -/

/-- the case of the hexadecimal digits does not change what a key string decodes to -/
theorem key_spelling_case_irrelevant (s : Babble.Decode.Bytes) :
    ByteCodec.decodeFromString (s.map ByteCodec.lowerByte) = ByteCodec.decodeFromString s ∧
    ByteCodec.decodeFromString (s.map ByteCodec.upperByte) = ByteCodec.decodeFromString s :=
  ⟨ByteCodec.decodeFromString_map _ ByteCodec.hexVal_lower s, ByteCodec.decodeFromString_map _ ByteCodec.hexVal_upper s⟩

/-- nor do the first two bytes (nominally `0X`) -/
theorem key_spelling_prefix_irrelevant (a b a' b' : Nat) (r : Babble.Decode.Bytes) :
    ByteCodec.decodeFromString (a :: b :: r) = ByteCodec.decodeFromString (a' :: b' :: r) :=
  (ByteCodec.decodeFromString_cons2 a b r).trans (ByteCodec.decodeFromString_cons2 a' b' r).symm

/-- a signature string can be re-spelled too (upper case, leading zeros): the same (r, s) has many
    strings, so a memo keyed by the string is not a memo keyed by the signature -/
theorem signature_respelled (n : Nat) :
    ByteCodec.setString36 ((ByteCodec.text36 n).map ByteCodec.upperByte) = some (Int.ofNat n) ∧
    ByteCodec.parseAux 0 (48 :: ByteCodec.text36 n) = some n :=
  ⟨ByteCodec.setString36_upper n, by rw [ByteCodec.parseAux_leading_zero]; exact ByteCodec.parse_text36 n⟩

/-- two different strings, one key: "0Xab" and "zzAB" -/
example : ByteCodec.decodeFromString [48, 88, 97, 98] = ByteCodec.decodeFromString [122, 122, 65, 66] := by decide

end Babble.Props.C12
