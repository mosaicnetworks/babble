import Babble.Model.Rpc
/-! # C17 — a node that is not babbling changes nothing; a suspended node still serves syncs
    About the gate expression and the suspension rule regenerated from `node_rpc.go:processRPC` and
    `node.go:checkSuspend`.  PARTIAL only in that the overshoot of the suspension threshold by
    concurrently running gossip routines is a runtime matter; the correspondence run drives real Node
    objects in every state. -/
namespace Babble.Props.C17
open Babble Babble.Rpc

/-- **gated**: a command is handled iff the node is Babbling, or it is Suspended and the command is a
    SyncRequest; everything else is answered with an error before any handler runs -/
theorem gated (st : NodeState) (cmd : Cmd) :
    processRPC st cmd = .handled ↔ (st = .babbling ∨ (st = .suspended ∧ cmd = .sync)) := by
  cases st <;> cases cmd <;> decide

theorem refused_of_not_handled {o : Outcome} (h : o ≠ .handled) : o = .refused := by
  cases o with
  | refused => rfl
  | handled => exact absurd rfl h

/-- no mutating request (eager sync, join) is ever handled outside the Babbling state -/
theorem mutating_refused_unless_babbling (st : NodeState) (cmd : Cmd) (hm : cmd.mutating = true)
    (hs : st ≠ .babbling) : processRPC st cmd = .refused := by
  refine refused_of_not_handled fun h => ?_
  rcases (gated st cmd).mp h with hb | ⟨_, rfl⟩
  · exact hs hb
  · cases hm

/-- in every non-babbling state other than Suspended every request is refused, including syncs -/
theorem non_babbling_refuses_all (st : NodeState) (cmd : Cmd) (h1 : st ≠ .babbling) (h2 : st ≠ .suspended) :
    processRPC st cmd = .refused :=
  refused_of_not_handled fun h => ((gated st cmd).mp h).elim h1 fun hs => h2 hs.1

/-- a suspended node still answers sync requests (and only those) -/
theorem suspended_serves_sync (cmd : Cmd) : processRPC .suspended cmd = .handled ↔ cmd = .sync :=
  (gated .suspended cmd).trans ⟨fun h => h.elim nofun (·.2), fun h => .inr ⟨rfl, h⟩⟩

/-- **suspend_rule**: the node suspends itself iff the undetermined events created since it started
    exceed limit × |validators|, or it has been removed from the validator set and the last consensus
    round has reached the removal round -/
theorem suspend_rule (u i l v : Int) (lcr : Option Int) (rem acc : Int) :
    suspends u i l v lcr rem acc = true ↔
      (u - i > l * v ∨ ∃ r, lcr = some r ∧ rem > 0 ∧ rem > acc ∧ r ≥ rem) := by
  unfold suspends
  simp only [Gen.suspendShape, Gen.cmpSuspendUndetermined, Gen.cmpEvictedRemovedPositive, Gen.cmpEvictedAfterAccepted,
    Gen.cmpEvictedReached, Cmp.eval, Bool.true_and, Bool.or_eq_true, decide_eq_true_eq]
  cases lcr with
  | none => simp
  | some r => simp [and_assoc]

example : suspends 61 0 20 3 none (-1) (-1) = true := by decide
example : suspends 60 0 20 3 none (-1) (-1) = false := by decide
example : suspends 0 0 20 3 (some 14) 14 (-1) = true := by decide

end Babble.Props.C17
