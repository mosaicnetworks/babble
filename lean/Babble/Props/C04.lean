import Babble.Proofs.DagViews
import Babble.Proofs.HGLamport
import Babble.Proofs.HGRoundReceived
/-! # C04 — committed order extends causality; events are committed whole and once
    About the operational model `Babble.HG` (no quorum reasoning, any validator-set behaviour) and,
    for the two causality clauses, about the declarative model `Babble.Dag` (static validator set;
    Lamport timestamps and round received of `Babble.Dag` are compared with the Go code on every
    static view): an ancestor has a strictly smaller Lamport timestamp than its descendant
    (`lamport_respects_ancestry`: never later within a block; on the operational model
    `lamport_respects_ancestry_operational`, `frame_order_extends_ancestry`) and is received in the same or an
    earlier round (`ancestors_received_no_later`: never in a later block). -/
namespace Babble.Props.C04
open Babble Babble.HG

/-- **never later within a block**: the frame is sorted by Lamport timestamp first, and Lamport
    timestamps strictly increase along ancestry -/
theorem lamport_respects_ancestry (ps : List Nat) {a e : Dag.E} (h : Dag.Anc a e) (hne : a ≠ e) :
    Dag.lamport ps a < Dag.lamport ps e := Dag.lamport_anc ps h hne

/-- **never in a later block**: in any one view, an ancestor's round received is at most its
    descendant's (blocks are made in increasing order of round received, C02) -/
theorem ancestors_received_no_later {ps : List Nat} {V : Dag.E → Prop} {k : Nat} {a e : Dag.E} {i j : Int}
    (h : Dag.Anc a e) (hi : Dag.RoundReceived ps V k e i) (hj : Dag.RoundReceived ps V k a j) : j ≤ i :=
  Dag.round_received_mono h hi hj

/-- a block contains exactly the payload of the events of one round received: its transactions are
    the concatenation, in committed order and each event's own order, of the frame events'
    transactions (same for internal transactions); an event's transactions are therefore contiguous -/
theorem block_payload_exact (index r : Int) (frame : Frame) (sorted : List Ev) (b : Block)
    (h : blockOf index r frame sorted = some b) :
    b.txs = (sorted.map (·.txs)).flatten ∧ b.itx = (sorted.map (·.itx)).flatten ∧
    b.events = sorted.map (·.id) := by
  rw [blockOf_some h]; exact ⟨rfl, rfl, rfl⟩

/-- the committed order inside a round received is the (Lamport, signature-key) order and contains
    exactly the events received in that round -/
theorem frame_sorted_and_complete (s : St) (r : Int) (ri : RoundInfo) :
    (s.getFrame r ri).2.Pairwise (fun a b => frameLe a b = true) ∧
    (s.getFrame r ri).2.Perm (ri.received.filterMap s.get) := getFrame_sorted s r ri

/-- a Lamport timestamp is strictly greater than those of both parents -/
theorem lamport_gt_parents (s : St) (e : Ev) :
    (e.sp ≠ "" → ∀ t, s.lamportOf e.sp = some t → t < s.computeLamport e) ∧
    (e.op ≠ "" → ∀ t, s.lamportOf e.op = some t → t < s.computeLamport e) := lamF_gt s.lamportOf e.sp e.op

/-- hence inside a frame an event with a smaller Lamport timestamp (in particular an ancestor) is
    never committed after one with a larger timestamp -/
theorem frame_order_respects_lamport (s : St) (r : Int) (ri : RoundInfo) (i j : Nat)
    (hi : i < (s.getFrame r ri).2.length) (hj : j < (s.getFrame r ri).2.length)
    (hlt : ((s.getFrame r ri).2[i]).lamport.getD 0 < ((s.getFrame r ri).2[j]).lamport.getD 0) : i < j :=
  sorted_lamport_order _ (getFrame_sorted s r ri).1 i j hi hj hlt

/-- the committed order of a frame is canonical: independent of the order in which the node
    happened to receive the events -/
theorem frame_order_canonical (l₁ l₂ : List Ev) (hp : l₁.Perm l₂)
    (hkey : ∀ a b, a ∈ l₁ → b ∈ l₁ → a.lamport.getD 0 = b.lamport.getD 0 → a.key = b.key → a = b) :
    l₁.mergeSort frameLe = l₂.mergeSort frameLe := HG.frame_order_canonical l₁ l₂ hp hkey

/-- non-vacuity: a two-event frame with a Lamport tie broken by the signature key -/
example : blockOf 0 3 { round := 3, ts := 7, peers := [0, 1], events := [], roots := [], peerSets := [] }
    [{ id := "a", creator := 0, index := 0, sp := "", op := "", ts := 1, key := 5, mid := true, txs := [1, 2], lamport := some 4 },
     { id := "b", creator := 1, index := 0, sp := "", op := "", ts := 2, key := 9, mid := true, txs := [3], lamport := some 4 }]
    = some { index := 0, rr := 3, ts := 7, txs := [1, 2, 3], itx := [], events := ["a", "b"], peers := [0, 1] } := by
  rfl

/-- **every event is committed at most once** (operational model, any validator-set behaviour): for
    every sequence of insertion attempts — admissible or not — of events with pairwise distinct ids
    into a node started from genesis, no delivered block lists an event twice and no two delivered
    blocks share an event. (Distinct ids: the id is the SHA-256 of the body; the same event offered
    twice is refused by the admission checks, C07.) -/
theorem every_event_committed_at_most_once (g : List Nat) (es : List Ev) (hes : ∀ e ∈ es, e.round = none)
    (hnd : (es.map (·.id)).Nodup) :
    (∀ b ∈ (runAll (St.init g) es).blocks, b.events.Nodup) ∧
    (runAll (St.init g) es).blocks.Pairwise (fun a b => ∀ x ∈ a.events, x ∉ b.events) :=
  committed_once g es hes hnd

/-- **Lamport timestamps increase along the parent edges** (operational model): in every state a
    node started from genesis reaches through insertion attempts — admitted or refused — of fresh
    events, every stored event has a Lamport timestamp, the parents it names are stored, and their
    timestamps are strictly smaller -/
theorem lamport_increases_along_parents (g : List Nat) (es : List Ev) (hnd : (es.map (·.id)).Nodup)
    (hfresh : ∀ e ∈ es, e.id ≠ "" ∧ e.lamport = none ∧ e.rr = none) (x : String) (e : Ev)
    (hx : (runAll (St.init g) es).get x = some e) :
    ∃ t, e.lamport = some t ∧
      (e.sp ≠ "" → ∃ p tp, (runAll (St.init g) es).get e.sp = some p ∧ p.lamport = some tp ∧ tp < t) ∧
      (e.op ≠ "" → ∃ p tp, (runAll (St.init g) es).get e.op = some p ∧ p.lamport = some tp ∧ tp < t) :=
  lamport_parents g es hnd hfresh x e hx

/-- **never later within a block, on the operational model**: a proper ancestor has a strictly
    smaller Lamport timestamp than its descendant; with `frame_order_respects_lamport` it is
    committed earlier whenever both are in the same frame -/
theorem lamport_respects_ancestry_operational (g : List Nat) (es : List Ev) (hnd : (es.map (·.id)).Nodup)
    (hfresh : ∀ e ∈ es, e.id ≠ "" ∧ e.lamport = none ∧ e.rr = none) (a b : String)
    (h : ProperAncestor (runAll (St.init g) es) a b) :
    ∃ ea eb ta tb, (runAll (St.init g) es).get a = some ea ∧ (runAll (St.init g) es).get b = some eb ∧
      ea.lamport = some ta ∧ eb.lamport = some tb ∧ ta < tb := by
  have hI := runAll_linv g es hnd hfresh
  obtain ⟨ta, tb, hta, htb, hlt⟩ := hI.anc_lt h
  obtain ⟨ea, ha, hea⟩ := vOf_eq_some (·.lamport) hta
  obtain ⟨eb, hb, heb⟩ := vOf_eq_some (·.lamport) htb
  exact ⟨ea, eb, ta, tb, ha, hb, hea, heb, hlt⟩

/-- the same with the reachability relation of C07 — the relation `ancestor_eq_reachability` proves
    equal to the Go `ancestor` predicate: a stored ancestor other than the event itself has a strictly
    smaller Lamport timestamp -/
theorem lamport_respects_reachability (g : List Nat) (es : List Ev) (hnd : (es.map (·.id)).Nodup)
    (hfresh : ∀ e ∈ es, e.id ≠ "" ∧ e.lamport = none ∧ e.rr = none) (a b : String) (hab : a ≠ b)
    (h : Anc (runAll (St.init g) es).events a b) :
    ∃ ea eb ta tb, (runAll (St.init g) es).get a = some ea ∧ (runAll (St.init g) es).get b = some eb ∧
      ea.lamport = some ta ∧ eb.lamport = some tb ∧ ta < tb := by
  have hI : AdmInv (runAll (St.init g) es).events :=
    HG.runAll_admInv_of_nodup g es (fun x hx => (hfresh x hx).1) hnd
  rcases HG.anc_proper _ hI a b h with heq | hpa
  · exact absurd heq hab
  · exact lamport_respects_ancestry_operational g es hnd hfresh a b hpa

/-- **the committed order of a block extends ancestry** (operational model): in any state in which
    the Lamport invariant holds — every state reachable by insertions from genesis
    (`lamport_increases_along_parents`), and it is kept by every pass, so also the states in which
    `ProcessDecidedRounds` builds a frame — if one event of the sorted frame is a proper ancestor of
    another, it comes first; the block lists the events, and hence their transactions, in that order
    (`block_payload_exact`) -/
theorem frame_order_extends_ancestry (s : St) (hI : LInv s) (r : Int) (ri : RoundInfo) (i j : Nat)
    (hi : i < (s.getFrame r ri).2.length) (hj : j < (s.getFrame r ri).2.length)
    (h : ProperAncestor s ((s.getFrame r ri).2[i]).id ((s.getFrame r ri).2[j]).id) : i < j :=
  HG.frame_order_extends_ancestry s hI r ri i j hi hj h

/-- the invariant used above holds in every reachable state and is kept by every step that keeps
    what is set and touches attributes only (all consensus passes) -/
theorem lamport_invariant_reachable_and_kept (g : List Nat) (es : List Ev) (hnd : (es.map (·.id)).Nodup)
    (hfresh : ∀ e ∈ es, e.id ≠ "" ∧ e.lamport = none ∧ e.rr = none) :
    LInv (runAll (St.init g) es) ∧
    (∀ s s' : St, AttrOnly s s' → Final s s' → LInv s → LInv s') :=
  ⟨runAll_linv g es hnd hfresh,
   fun _ _ a f h => h.of_final a f⟩

/-- **an event is received strictly after the round it was created in** (operational model): an event
    that has a round received has a round, and the round received is strictly larger; with C02's
    increasing round received per block, a block never contains an event of its own or a later round -/
theorem round_received_above_round (g : List Nat) (es : List Ev) (hnd : (es.map (·.id)).Nodup)
    (hfresh : ∀ e ∈ es, e.id ≠ "" ∧ e.round = none ∧ e.rr = none) (x : String) (e : Ev) (k : Int)
    (hx : (runAll (St.init g) es).get x = some e) (hk : e.rr = some k) : ∃ r, e.round = some r ∧ r < k :=
  HG.round_received_above_round g es hnd hfresh x e k hx hk

/-- non-vacuity: two validators, a first event each, then an event of validator 0 on top of both -/
example :
    let es : List Ev := [
      { id := "a", creator := 0, index := 0, sp := "", op := "", ts := 1, key := 1, mid := true },
      { id := "b", creator := 1, index := 0, sp := "", op := "", ts := 2, key := 2, mid := true },
      { id := "c", creator := 0, index := 1, sp := "a", op := "b", ts := 3, key := 3, mid := true }]
    ((runAll (St.init [0, 1]) es).events.map (fun e => (e.id, e.lamport))) = [("c", some 1), ("b", some 0), ("a", some 0)] := by
  -- evaluated once, by the kernel (plain `decide` evaluates in the elaborator first)
  decide +kernel

end Babble.Props.C04
