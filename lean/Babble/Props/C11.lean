import Babble.Props.C02
import Babble.Props.C07
/-! # C11 — crash recovery (PARTIAL)
    Model: the durable store keeps, per committed `SetEvent` transaction, the event under its
    topological index; `Bootstrap` re-inserts the events of the topological listing in order into a
    fresh hashgraph (`runAll (St.init genesis) log`), the application having been reset.

    Proved (for the model, every history and every crash point between two insertions or between two
    processed rounds): what was delivered before the crash is a prefix of what bootstrap re-delivers;
    topological indexes are gap free (one per accepted event, none consumed by a refused one); the
    restored head lets the node's next self-event pass admission (no self-fork).

    Assumed, exercised by the child-process harness and not proved: a committed Badger transaction
    survives SIGKILL, reopening replays the value log, the JSON database form of an event keeps what
    `InsertEvent` reads (DESIGN.md §3 C11). -/
namespace Babble.Props.C11
open Babble Babble.HG

/-- crash between two insertions: everything delivered after a prefix of the log is re-delivered,
    identically and in the same positions, by a bootstrap from any longer log -/
theorem redelivered_prefix (genesis : List Nat) (log rest : List Ev) :
    ∃ new, (runAll (St.init genesis) (log ++ rest)).blocks = (runAll (St.init genesis) log).blocks ++ new :=
  Props.C02.delivered_prefix_stable _ log rest

theorem processLoop_none {s : St} (hp : s.processOne = none) : ∀ k, s.processLoop k = s
  | 0 => rfl
  | k + 1 => by unfold St.processLoop; rw [hp]

theorem processLoop_add (m k : Nat) (s : St) : (s.processLoop m).processLoop k = s.processLoop (m + k) := by
  induction m generalizing s with
  | zero => rw [Nat.zero_add]; rfl
  | succ m ih =>
    rw [Nat.add_right_comm m 1 k]
    simp only [St.processLoop]
    cases hp : s.processOne with
    | none => exact processLoop_none hp k
    | some s' => exact ih s'

/-- crash between two processed rounds of one `ProcessDecidedRounds` pass: the blocks delivered so far
    are a prefix of what the complete pass delivers -/
theorem crash_inside_pass (s : St) (m n : Nat) (h : m ≤ n) :
    ∃ new, (s.processLoop n).blocks = (s.processLoop m).blocks ++ new := by
  obtain ⟨k, rfl⟩ := Nat.exists_eq_add_of_le h
  rw [← processLoop_add]
  obtain ⟨new, h, _⟩ := processLoop_extends k (s.processLoop m)
  exact ⟨new, h⟩

theorem insert_topo (s : St) (e : Ev) : (s.insert e).topo = s.topo + 1 ∧ (s.insert e).events.length = s.events.length + 1 := by
  obtain ⟨g, _, hev⟩ := insert_attr s e
  refine ⟨congrArg (· + 1) ((topo_blind.passes s).1 e), ?_⟩
  rw [hev, List.length_map]
  rfl

/-- **log_is_insert_history**: the topological counter equals the number of stored events in every
    reachable state — one index per accepted event, in insertion order, no gaps -/
theorem topo_is_event_count (genesis : List Nat) (es : List Ev) :
    (runAll (St.init genesis) es).topo = (runAll (St.init genesis) es).events.length := by
  refine runAll_induction (P := fun s => s.topo = s.events.length) (fun s e _ h => ?_) rfl
  cases hadm : s.admission e with
  | some r => rw [insertAndRun_fst_rejected hadm]; exact h
  | none =>
    rw [insertAndRun_fst_admitted hadm, runConsensus_topo, runConsensus_length, (insert_topo s e).1, (insert_topo s e).2, h]

/-- the topological counter only moves when an event is accepted: refused events (bad signature,
    unknown parents, wrong index, …) consume no index, so the database's topological listing has no
    holes at which `Bootstrap` would stop -/
theorem refused_consumes_no_index (s : St) (e : Ev) (r : Rej) (h : (s.insertAndRun e).2 = some r) :
    (s.insertAndRun e).1.topo = s.topo := by
  rw [Props.C07.rejected_is_noop s e r h]

/-- the restored head: a self-event built on the node's last stored event (self-parent = that event,
    index = its index + 1, known other-parent) passes every admission check after a bootstrap, i.e.
    the recovered node extends its own chain and never creates a second event at a used height -/
theorem next_self_event_admitted (s : St) (c : Nat) (l : Ev) (e : Ev)
    (hl : s.lastFrom c = some l) (hrep : s.repertoire.contains c = true)
    (hc : e.creator = c) (hsig : e.sigok = true) (hsp : e.sp = l.id) (hidx : e.index = l.index + 1)
    (hop : e.op = "" ∨ (s.get e.op).isSome) : s.admission e = none := by
  subst hc
  exact (admission_eq_none_iff s e).mpr ⟨hsig, hrep, by rw [hl]; exact ⟨hsp, hidx⟩, hop⟩

/-- … whereas re-using an index the node already used is refused (self-fork impossible, C07) -/
theorem reused_height_refused (s : St) (c : Nat) (l : Ev) (e : Ev)
    (hl : s.lastFrom c = some l) (hrep : s.repertoire.contains c = true)
    (hc : e.creator = c) (hsig : e.sigok = true) (hidx : e.index ≤ l.index) : s.admission e ≠ none := by
  intro h
  have := (admitted_next h (hc ▸ hl)).2
  omega

end Babble.Props.C11
