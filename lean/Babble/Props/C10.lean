import Babble.Proofs.PeerSets
import Babble.Proofs.HGBlocks
import Babble.Proofs.HGTable
/-! # C10 — the validator-set history is a replayable function of the committed blocks
    `buildTable` is what the commit callback (`core.processAcceptedInternalTransactions` +
    `PeerSetCache.Set`) does block after block; `peersAtTbl` is `PeerSetCache.Get`; `replay` is the
    specification.  The activation delay is the regenerated `Gen.effectiveRound` (round received + 6).
    `Increasing` (strictly increasing, non-negative round received) is what C02 gives for delivered
    blocks: `HG.blocks_rr_increasing` proves it of the operational model, so
    `node_history_is_replay` / `node_validators_are_replay` state the property for every reachable
    state of a node started from genesis, without that hypothesis.

    PARTIAL: "the set a node *uses* for round r" also includes values memoised before an entry
    existed (round / witness of an event divided before the block carrying the change was committed).
    That coincides with the table only if no event of a round ≥ rr + 6 is divided before block rr is
    committed (the R+6 assumption of docs/dynamic_membership.rst); it is checked by the harness on every
    trace (the C01 oracle across nodes), not proved. -/
namespace Babble.Props.C10
open Babble Babble.HG

/-- **table_is_replay**: the validator set a node looks up for round r is the genesis set modified,
    in block order, by exactly the accepted receipts of the blocks with round received + 6 ≤ r -/
theorem table_is_replay (genesis : List Nat) (bs : List PBlock) (hinc : Increasing bs) (r : Int) (hr : 0 ≤ r) :
    peersAtTbl (buildTable genesis bs).1 r = replay genesis bs r :=
  (tinv_buildTable genesis bs hinc).lookup r hr

/-- the node's latest validator set is the genesis set with every accepted change applied -/
theorem validators_are_replay (genesis : List Nat) (bs : List PBlock) (hinc : Increasing bs) :
    (buildTable genesis bs).2 = replayAll genesis bs :=
  (tinv_buildTable genesis bs hinc).validators

/-- **change_never_retroactive**: committing a block never changes the set of any round below its
    round received + 6 — in particular of no round already processed -/
theorem change_never_retroactive (genesis : List Nat) (bs : List PBlock) (b : PBlock)
    (hinc : Increasing (bs ++ [b])) (r : Int) (hr : 0 ≤ r) (hlt : r < Gen.effectiveRound b.1) :
    peersAtTbl (buildTable genesis (bs ++ [b])).1 r = peersAtTbl (buildTable genesis bs).1 r := by
  rw [table_is_replay genesis _ hinc r hr, table_is_replay genesis bs hinc.of_append r hr, replay_snoc,
    if_neg (Int.not_le.mpr hlt)]

theorem activation_delay (rr : Int) : Gen.effectiveRound rr = rr + 6 := effectiveRound_eq rr

/-- the operational model's commit callback is one `tableStep` -/
theorem applyReceipts_is_tableStep (s : St) (rr : Int) (itxs : List (Bool × Nat)) :
    ((s.applyReceipts rr itxs).peerSets, (s.applyReceipts rr itxs).validators) =
      tableStep (s.peerSets, s.validators) (rr, itxs) := applyReceipts_tableStep s rr itxs

/-- **block_peers**: a block's peer list is the set effective at its round received -/
theorem block_peers (s : St) (r : Int) (ri : RoundInfo) : (s.getFrame r ri).1.peers = s.peersAt r := rfl

/-- two nodes that delivered the same blocks hold the same validator-set history -/
theorem same_blocks_same_history (genesis : List Nat) (bs : List PBlock) (hinc : Increasing bs) (r : Int) (hr : 0 ≤ r)
    (t₁ t₂ : List (Int × List Nat)) (h₁ : t₁ = (buildTable genesis bs).1) (h₂ : t₂ = (buildTable genesis bs).1) :
    peersAtTbl t₁ r = peersAtTbl t₂ r := by rw [h₁, h₂]

theorem node_tinv (genesis : List Nat) (es : List Ev) (hes : ∀ e ∈ es, e.round = none) :
    TInv genesis ((runAll (St.init genesis) es).blocks.map pb)
      ((runAll (St.init genesis) es).peerSets, (runAll (St.init genesis) es).validators) := by
  rw [show (_, _) = _ from runAll_tbl genesis _ es (init_tbl genesis)]
  exact tinv_buildTable genesis _ (runAll_increasing genesis es hes)

/-- **node_history_is_replay**: in every reachable state of a node started from genesis (any sequence
    of insertion attempts of fresh events), the validator set it looks up for round r is the genesis
    set modified, in block order, by exactly the accepted receipts of its delivered blocks with round
    received + 6 ≤ r -/
theorem node_history_is_replay (genesis : List Nat) (es : List Ev) (hes : ∀ e ∈ es, e.round = none)
    (r : Int) (hr : 0 ≤ r) :
    (runAll (St.init genesis) es).peersAt r = replay genesis ((runAll (St.init genesis) es).blocks.map pb) r :=
  (node_tinv genesis es hes).lookup r hr

/-- … and its latest validator set (`core.validators`) is the genesis set with every accepted
    change of its delivered blocks applied -/
theorem node_validators_are_replay (genesis : List Nat) (es : List Ev) (hes : ∀ e ∈ es, e.round = none) :
    (runAll (St.init genesis) es).validators = replayAll genesis ((runAll (St.init genesis) es).blocks.map pb) :=
  (node_tinv genesis es hes).validators

/-- non-vacuity: genesis {0,1,2}; block at round 4 adds 3, block at round 9 removes 1 -/
example : (buildTable [0, 1, 2] [(4, [(true, 3)]), (9, [(false, 1)])]).1 = [(0, [0, 1, 2]), (10, [0, 1, 2, 3]), (15, [0, 2, 3])] := by
  decide
example : Increasing [(4, [(true, 3)]), (9, [(false, 1)])] := by simp [Increasing]

end Babble.Props.C10
