import Babble.Model.SigPool
import Babble.Proofs.Quorum
import Babble.Proofs.ListFacts
/-! # C09 — block signatures and anchor
    About `Babble.SigPool` (model of `ProcessSigPool`, `SetAnchorBlock`, signing in `core.commit`),
    with the anchor threshold / comparison operators regenerated from the source.  A signature's
    validity against the node's own block body, its well-formedness and validator-set membership are
    input facts computed by the real code in the correspondence run.  `peersAt` is the validator set
    of a block's round, which never changes once the block exists (C10). -/
namespace Babble.Props.C09
open Babble Babble.SigPool

theorem getBlock_setBlock (s : SP) (b' : SBlock) (i : Int) :
    (s.setBlock b').getBlock i = (s.getBlock i).map fun x => if x.index == b'.index then b' else x := by
  refine find?_key_map SBlock.index _ (fun x => ?_) s.blocks i
  split
  · rename_i h; exact (eq_of_beq h).symm
  · rfl

theorem setAnchor_blocks (s : SP) (b : SBlock) : (s.setAnchor b).blocks = s.blocks := by
  unfold SP.setAnchor; split <;> rfl

theorem getBlock_setAnchor (s : SP) (b : SBlock) (i : Int) : (s.setAnchor b).getBlock i = s.getBlock i :=
  congrArg (List.find? _) (setAnchor_blocks s b)

theorem getBlock_index (s : SP) (i : Int) (b : SBlock) (h : s.getBlock i = some b) : b.index = i := by
  have := List.find?_some h
  exact eq_of_beq this

theorem getBlock_inj {s : SP} {i j : Int} {x y : SBlock} (hx : s.getBlock i = some x) (hy : s.getBlock j = some y)
    (h : x.index = y.index) : i = j ∧ x = y := by
  obtain rfl : i = j := by rw [← getBlock_index s i x hx, h, getBlock_index s j y hy]
  exact ⟨rfl, Option.some.inj (hx.symm.trans hy)⟩

theorem addSig_spec (b : SBlock) (v : Nat) :
    (addSig b v).index = b.index ∧ (addSig b v).rr = b.rr ∧ b.sigs.length ≤ (addSig b v).sigs.length ∧
    (∀ w, w ∈ (addSig b v).sigs ↔ w ∈ b.sigs ∨ w = v) := by
  have h := mem_snoc_unless b.sigs v
  unfold addSig
  split
  · rename_i hc
    rw [if_pos hc] at h
    exact ⟨rfl, rfl, Nat.le_refl _, h⟩
  · rename_i hc
    rw [if_neg hc] at h
    exact ⟨rfl, rfl, by simp, h⟩

theorem processSig_cases (s : SP) (g : Sig) :
    (s.processSig g).1 = s ∨
    ∃ bb, s.getBlock g.index = some bb ∧ g.validator ∈ s.peersAt bb.rr ∧ g.wellFormed = true ∧ g.valid = true ∧
      (s.processSig g).1 = (s.setBlock (addSig bb g.validator)).setAnchor (addSig bb g.validator) := by
  unfold SP.processSig
  split
  · exact .inl rfl
  · rename_i bb hbb
    -- the four tests in the order of the code; a failed one returns `s` itself
    cases s.hasPeers
    · exact .inl rfl
    cases h2 : (s.peersAt bb.rr).contains g.validator
    · exact .inl rfl
    cases g.wellFormed
    · exact .inl rfl
    cases g.valid
    · exact .inl rfl
    exact .inr ⟨bb, hbb, List.contains_iff_mem.mp h2, rfl, rfl, rfl⟩

/-- **recorded_sigs_valid** (step form): the only way a validator's signature gets recorded on a
    block by `ProcessSigPool` is a pooled signature for that block's index, by that validator, who
    belongs to the validator set of the block's round, and which verifies against the node's own body -/
theorem recorded_only_valid (s : SP) (g : Sig) (i : Int) (b b0 : SBlock) (v : Nat)
    (h0 : s.getBlock i = some b0) (h1 : (s.processSig g).1.getBlock i = some b)
    (hv : v ∈ b.sigs) (hn : v ∉ b0.sigs) :
    g.validator = v ∧ g.index = i ∧ g.valid = true ∧ g.wellFormed = true ∧ v ∈ s.peersAt b0.rr := by
  rcases processSig_cases s g with h | ⟨bb, hbb, hmem, hwf, hval, h⟩
  · rw [h, h0] at h1; cases h1; exact absurd hv hn
  · rw [h, getBlock_setAnchor, getBlock_setBlock, h0, Option.map_some] at h1
    cases h1
    obtain ⟨hidx, -, -, hsigs⟩ := addSig_spec bb g.validator
    split at hv
    · rename_i hbeq
      -- `b0` is the block the signature went to
      obtain ⟨rfl, rfl⟩ := getBlock_inj h0 hbb ((eq_of_beq hbeq).trans hidx)
      rcases (hsigs v).mp hv with h | h
      · exact absurd h hn
      · exact ⟨h.symm, rfl, hval, hwf, h ▸ hmem⟩
    · exact absurd hv hn

/-- the anchor always designates a stored block carrying more recorded signatures than TrustCount
    of its round's validator set -/
def AnchorInv (s : SP) : Prop :=
  ∀ a, s.anchor = some a → ∃ b, s.getBlock a = some b ∧
    Gen.cmpAnchor.evalN b.sigs.length (trust (s.peersAt b.rr)) = true

theorem setAnchor_inv (s : SP) (b : SBlock) (hI : AnchorInv s) (hb : s.getBlock b.index = some b) :
    AnchorInv (s.setAnchor b) := by
  unfold SP.setAnchor
  split
  · rename_i hc
    intro a ha
    cases ha
    exact ⟨b, hb, (Bool.and_eq_true_iff.mp hc).1⟩
  · exact hI

theorem setBlock_inv (s : SP) (b b' : SBlock) (hI : AnchorInv s) (hb : s.getBlock b'.index = some b)
    (hrr : b'.rr = b.rr) (hlen : b.sigs.length ≤ b'.sigs.length) : AnchorInv (s.setBlock b') := by
  intro a ha
  obtain ⟨b0, hb0, hc⟩ := hI a ha
  refine ⟨_, by rw [getBlock_setBlock, hb0, Option.map_some], ?_⟩
  split
  · rename_i hbeq
    obtain ⟨rfl, rfl⟩ := getBlock_inj hb0 hb ((eq_of_beq hbeq).trans (getBlock_index s _ b hb).symm)
    rw [hrr]
    exact decide_eq_true (Nat.lt_of_lt_of_le (of_decide_eq_true hc) hlen)
  · exact hc

theorem processSig_inv (s : SP) (g : Sig) (hI : AnchorInv s) : AnchorInv (s.processSig g).1 := by
  rcases processSig_cases s g with h | ⟨bb, hbb, _, _, _, h⟩ <;> rw [h]
  · exact hI
  · obtain ⟨hidx, hrr, hlen, -⟩ := addSig_spec bb g.validator
    have hbb' : s.getBlock (addSig bb g.validator).index = some bb := by
      rw [hidx, getBlock_index s _ bb hbb, hbb]
    refine setAnchor_inv _ _ (setBlock_inv s bb _ hI hbb' hrr hlen) ?_
    rw [getBlock_setBlock, hbb']
    simp [hidx]

/-- **anchor_well_signed**: a pass of `ProcessSigPool` keeps `AnchorInv` (the signing step of `core.commit`,
    which also calls `SetAnchorBlock`, is not covered) -/
theorem processPool_inv (s : SP) (hI : AnchorInv s) : AnchorInv s.processPool :=
  -- `AnchorInv` does not read `pool`, the one field in which `processPool` differs from the fold's state
  List.foldlRecOn (motive := fun acc => AnchorInv acc.1) s.pool processStep hI
    fun acc h g _ => processSig_inv acc.1 g h

/-- a trusted anchor carries strictly more than a third of its round's validators as distinct
    signers (any signature for a single validator) -/
theorem anchor_more_than_third (s : SP) (hI : AnchorInv s) (a : Int) (ha : s.anchor = some a) :
    ∃ b, s.getBlock a = some b ∧ (1 ≤ (s.peersAt b.rr).length → 3 * b.sigs.length > (s.peersAt b.rr).length) := by
  obtain ⟨b, hb, hc⟩ := hI a ha
  -- `hc` unfolds to `decide (b.sigs.length > Gen.trustCount _ _) = true`: the regenerated operator is `>`
  exact ⟨b, hb, fun _ => Gen.lt_of_trustCount_lt _ _ (of_decide_eq_true hc)⟩

theorem setAnchor_monotone (s : SP) (b : SBlock) (a a' : Int) (h : s.anchor = some a)
    (h' : (s.setAnchor b).anchor = some a') : a ≤ a' := by
  unfold SP.setAnchor at h'
  split at h'
  · rename_i hc
    cases h'
    have := (Bool.and_eq_true_iff.mp hc).2
    unfold SP.aboveAnchor at this
    rw [h] at this
    exact Int.le_of_lt (of_decide_eq_true this)
  · rw [h] at h'
    cases h'; exact Int.le_refl _

/-- **anchor_monotone**, for one pooled signature: handling it never moves the anchor index backwards
    (`setAnchor_monotone` says the same of any `SetAnchorBlock`, the one in `core.commit` included) -/
theorem anchor_monotone_step (s : SP) (g : Sig) (a a' : Int) (h : s.anchor = some a)
    (h' : (s.processSig g).1.anchor = some a') : a ≤ a' := by
  rcases processSig_cases s g with hs | ⟨bb, _, _, _, _, hs⟩ <;> rw [hs] at h'
  · rw [h] at h'; cases h'; exact Int.le_refl _
  · exact setAnchor_monotone (s.setBlock _) _ a a' h h'

/-- **signs_only_delivered**: the node's own signature is put on a block only in `core.commit`, i.e.
    on a block it has just delivered, and only if it belongs to that round's validator set -/
theorem own_signature_on_commit (s : SP) (index rr : Int) (self : Nat) (b : SBlock)
    (hb : b ∈ (s.commitBlock index rr self).blocks) (hnew : b ∉ s.blocks) :
    b.index = index ∧ b.rr = rr ∧ (self ∈ b.sigs ↔ self ∈ s.peersAt rr) ∧ ∀ w ∈ b.sigs, w = self := by
  unfold SP.commitBlock at hb
  rw [setAnchor_blocks] at hb
  rcases List.mem_append.mp hb with hb | hb
  · exact absurd hb hnew
  · obtain rfl := List.mem_singleton.mp hb
    split
    · rename_i hm
      obtain ⟨hidx, hrr, -, hsigs⟩ := addSig_spec { index := index, rr := rr } self
      exact ⟨hidx, hrr, ⟨fun _ => List.contains_iff_mem.mp hm, fun _ => (hsigs self).mpr (.inr rfl)⟩,
        fun w hw => ((hsigs w).mp hw).elim nofun id⟩
    · rename_i hm
      exact ⟨rfl, rfl, ⟨nofun, fun h => absurd (List.contains_iff_mem.mpr h) hm⟩, nofun⟩

/-- non-vacuity: four validators, block 0 of round 3; two valid pooled signatures make it the anchor,
    a signature by a non-member and a non-verifying one do not count -/
example :
    (({ blocks := [{ index := 0, rr := 3, sigs := [0] }],
        pool := [⟨1, 0, true, true⟩, ⟨7, 0, true, true⟩, ⟨2, 0, true, false⟩, ⟨3, 0, true, true⟩],
        peersAt := fun _ => [0, 1, 2, 3] } : SP).processPool).anchor = some 0 := by decide

end Babble.Props.C09
