import Babble.Model.Proxy
/-! # C20 — the application proxy is transparent (PARTIAL)
    Proved: the retry loop of the socket proxies (retry counts regenerated from the source) reports an
    error iff every attempt it made failed, and a success carries the reply of the attempt that
    succeeded — never an empty success; at most `retries` attempts are made.
    Not modelled: `net/rpc`, `jsonrpc`, TCP, timing.  Byte-exact transport of blocks, commit responses
    and transactions, submission order, and behaviour under dropped connections are decided by the
    harness running both real proxies against a fault-injecting application endpoint (DESIGN.md §3 C20). -/
namespace Babble.Props.C20
open Babble Babble.Proxy

variable {ρ : Type}

def isOk : Attempt ρ → Bool
  | .ok _ => true
  | _ => false

theorem attempt_cases (a : Attempt ρ) :
    (∃ r, a = .ok r) ∨ (isOk a = false ∧ ∀ n rest, call (n + 1) (a :: rest) = call n rest) := by
  cases a with
  | ok r => exact .inl ⟨r, rfl⟩
  | connFail => exact .inr ⟨rfl, fun _ _ => rfl⟩
  | callFail => exact .inr ⟨rfl, fun _ _ => rfl⟩

theorem call_error_iff (n : Nat) (atts : List (Attempt ρ)) :
    call n atts = .error ↔ ∀ a ∈ atts.take n, isOk a = false := by
  induction n generalizing atts with
  | zero => exact ⟨fun _ _ => nofun, fun _ => rfl⟩
  | succ n ih =>
    cases atts with
    | nil => exact ⟨fun _ _ => nofun, fun _ => rfl⟩
    | cons a rest =>
      rw [List.take_succ_cons, List.forall_mem_cons]
      rcases attempt_cases a with ⟨r, rfl⟩ | ⟨hf, hc⟩
      · exact ⟨nofun, fun h => nomatch h.1⟩
      · rw [hc, ih]; exact ⟨fun h => ⟨hf, h⟩, fun h => h.2⟩

/-- **call_error_iff_all_attempts_fail** (neither hypothesis is needed: `call_error_iff`) -/
theorem call_error_iff_all_attempts_fail (n : Nat) (atts : List (Attempt ρ)) (hlen : n ≤ atts.length) (hn : 0 < n) :
    call n atts = .error ↔ ∀ a ∈ atts.take n, isOk a = false := call_error_iff n atts

/-- **call_ok_returns_an_attempts_reply**: a success is the reply of one of the attempts made, and
    every earlier attempt failed -/
theorem call_ok_returns_an_attempts_reply (n : Nat) (atts : List (Attempt ρ)) (r : ρ) (h : call n atts = .success r) :
    ∃ k, k < n ∧ atts[k]? = some (.ok r) ∧ ∀ j, j < k → ∃ a, atts[j]? = some a ∧ isOk a = false := by
  induction n generalizing atts with
  | zero => cases h
  | succ n ih =>
    cases atts with
    | nil => cases h
    | cons a rest =>
      rcases attempt_cases a with ⟨r', rfl⟩ | ⟨hf, hc⟩
      · cases h
        exact ⟨0, Nat.zero_lt_succ n, rfl, nofun⟩
      · rw [hc] at h
        obtain ⟨k, hk, hr, hfail⟩ := ih rest h
        refine ⟨k + 1, Nat.succ_lt_succ hk, hr, fun j hj => ?_⟩
        cases j with
        | zero => exact ⟨a, rfl, hf⟩
        | succ j => exact hfail j (Nat.lt_of_succ_lt_succ hj)

/-- at most `retries` attempts are made -/
theorem attempts_bounded (n : Nat) (atts : List (Attempt ρ)) : attemptsMade n atts ≤ n := by
  induction n generalizing atts with
  | zero => exact Nat.le_refl 0
  | succ n ih =>
    cases atts with
    | nil => exact Nat.zero_le _
    | cons a rest =>
      have hfail : 1 + attemptsMade n rest ≤ n + 1 := by rw [Nat.add_comm]; exact Nat.succ_le_succ (ih rest)
      cases a with
      | ok r => exact Nat.succ_le_succ (Nat.zero_le n)
      | connFail => exact hfail
      | callFail => exact hfail

/-- the shipped retry counts are positive: the loop body runs at least once, so a call can never
    "succeed" without having obtained a reply -/
theorem retries_positive : 0 < Gen.appProxyRetries ∧ 0 < Gen.babbleProxyRetries := by decide

/-- with the shipped constants: never an empty success -/
theorem never_empty_success (atts : List (Attempt ρ)) (r : ρ) (h : call Gen.appProxyRetries atts = .success r) :
    ∃ k, k < Gen.appProxyRetries ∧ atts[k]? = some (.ok r) :=
  let ⟨k, hk, hr, _⟩ := call_ok_returns_an_attempts_reply _ atts r h
  ⟨k, hk, hr⟩

example : call 3 [Attempt.connFail, .callFail, .ok 7] = Outcome.success 7 := by decide
example : call 3 [Attempt.connFail, .callFail, .callFail, .ok 7] = (Outcome.error : Outcome Nat) := by decide

end Babble.Props.C20
