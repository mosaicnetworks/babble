import Babble.Model.Quorum
import Babble.Proofs.Quorum
import Babble.Proofs.ListFacts
import Mathlib.Data.Finset.Card
import Mathlib.Data.Fintype.Card
/-! # C19 — quorum thresholds
    All statements are about the definitions regenerated from `src/peers/peer_set.go`
    (`Babble.Gen.superMajority`, `Babble.Gen.trustCount`) and the hand model of
    `WithNewPeer`/`WithRemovedPeer` (`Babble.Quorum`). -/
namespace Babble.Props.C19
open Babble Babble.Quorum

/-- the supermajority threshold is the least integer strictly greater than 2n/3 -/
theorem sm_least (n : Nat) :
    3 * Gen.superMajority n > 2 * n ∧ 3 * (Gen.superMajority n - 1) ≤ 2 * n :=
  Gen.superMajority_spec n

/-- `s > TrustCount` forces strictly more than n/3 signatures (duplicate-free sets: both
    arguments of the generated function are `n`) -/
theorem trusted_needs_more_than_third (n s : Nat) (hn : 1 ≤ n) (h : s > Gen.trustCount n n) :
    3 * s > n :=
  Gen.lt_of_trustCount_lt n s h

/-- a single signature suffices only for n = 1 -/
theorem trust_single : Gen.trustCount 1 1 = 0 := (Gen.trustCount_spec 1).1 (Nat.le_refl 1)

theorem trust_ge_one (n : Nat) (hn : 2 ≤ n) : Gen.trustCount n n ≥ 1 := by
  have := ((Gen.trustCount_spec n).2 hn).1
  omega

/-- for n ≥ 2 the trust count is exactly ⌈n/3⌉ -/
theorem trust_is_ceil (n : Nat) (hn : 2 ≤ n) :
    3 * Gen.trustCount n n ≥ n ∧ 3 * (Gen.trustCount n n - 1) < n :=
  (Gen.trustCount_spec n).2 hn

/-- every place where the consensus code compares a count with the supermajority (strongly
    seeing, advancing a round, deciding in a normal round, copying the observed vote in a coin
    round, a round being decided, receiving an event) accepts exactly the counts strictly above two
    thirds of the validators: none demands more than the least such integer, none is content with
    less. The comparison operators are regenerated from the source of each site. -/
theorem supermajority_sites_accept_iff (n c : Nat) :
    ∀ s ∈ [Gen.cmpStronglySee, Gen.cmpRound, Gen.cmpFameNormal, Gen.cmpFameCoin,
           Gen.cmpWitnessesDecided, Gen.cmpRoundReceived],
      (s.evalN c (Gen.superMajority n) = true ↔ 2 * n < 3 * c) := by
  have hge : Cmp.ge.evalN c (Gen.superMajority n) = true ↔ 2 * n < 3 * c :=
    decide_eq_true_iff.trans (Gen.superMajority_le_iff n c)
  intro s hs
  simp only [List.mem_cons, List.not_mem_nil, or_false] at hs
  -- each of the regenerated operators unfolds to `≥`
  rcases hs with rfl | rfl | rfl | rfl | rfl | rfl <;> exact hge

/-- the two places where block signatures are counted let a block through only with strictly more
    than one third of the validators (counts of distinct validators): `SetAnchorBlock` accepts,
    `CheckBlock` does not reject -/
theorem trust_sites_need_more_than_third (n s : Nat) (hn : 1 ≤ n) :
    (Gen.cmpAnchor.evalN s (Gen.trustCount n n) = true → n < 3 * s) ∧
    (Gen.cmpCheckBlockReject.evalN s (Gen.trustCount n n) = false → n < 3 * s) :=
  -- the regenerated operators are `>` and `≤`, and `evalN` unfolds to the `decide` of the comparison
  ⟨fun h => trusted_needs_more_than_third n s hn (of_decide_eq_true h),
   fun h => trusted_needs_more_than_third n s hn (Nat.not_le.mp (of_decide_eq_false h))⟩

section sets
variable {V : Type} [DecidableEq V] [Fintype V]

/-- any two supermajorities share more than n/3 validators -/
theorem two_supermajorities_intersect (A B : Finset V)
    (hA : Gen.superMajority (Fintype.card V) ≤ A.card)
    (hB : Gen.superMajority (Fintype.card V) ≤ B.card) :
    3 * (A ∩ B).card > Fintype.card V := by
  have h1 := Finset.card_union_add_card_inter A B
  have h2 : (A ∪ B).card ≤ Fintype.card V := Finset.card_le_univ _
  have h3 := sm_least (Fintype.card V)
  omega

/-- a supermajority contains more honest than faulty validators (and more than n/3 honest ones)
    when fewer than n/3 are faulty -/
theorem supermajority_has_honest_majority (A F : Finset V)
    (hA : Gen.superMajority (Fintype.card V) ≤ A.card) (hF : 3 * F.card < Fintype.card V) :
    (A \ F).card > (A ∩ F).card ∧ 3 * (A \ F).card > Fintype.card V := by
  have h1 : (A \ F).card + (A ∩ F).card = A.card := Finset.card_sdiff_add_card_inter A F
  have h2 : (A ∩ F).card ≤ F.card := Finset.card_le_card Finset.inter_subset_right
  have h3 := sm_least (Fintype.card V)
  omega

/-- a trusted block (more than TrustCount distinct signers) has at least one honest signer -/
theorem trusted_has_honest_signer (S F : Finset V) (hn : 1 ≤ Fintype.card V)
    (hS : S.card > Gen.trustCount (Fintype.card V) (Fintype.card V))
    (hF : 3 * F.card < Fintype.card V) : ∃ v ∈ S, v ∉ F :=
  -- `F` is smaller than `S`
  Finset.exists_mem_notMem_of_card_lt_card
    (Nat.lt_of_mul_lt_mul_left (Nat.lt_trans hF (trusted_needs_more_than_third _ _ hn hS)))
end sets

/-- every peer list built by additions and removals is duplicate free -/
theorem nodup_after_ops (ops : List Op) : (ops.foldl applyOp []).Nodup :=
  List.foldlRecOn ops applyOp List.nodup_nil fun ps h op _ => by
    cases op with
    | add p => exact nodup_snoc_unless ps p h
    | rm p => exact h.filter _

theorem dedup_of_nodup (ps : PeerList) (h : ps.Nodup) : dedup ps = ps := by
  induction ps with
  | nil => rfl
  | cons a as ih =>
    have hn := List.nodup_cons.mp h
    simp [dedup, hn.1, ih hn.2]

/-- `Len()` of a set built by any sequence of additions and removals is the number of its members,
    so the two arguments of the generated `trustCount` coincide -/
theorem len_after_ops (ops : List Op) :
    len (ops.foldl applyOp []) = (ops.foldl applyOp []).length :=
  congrArg List.length (dedup_of_nodup _ (nodup_after_ops ops))

/-- the last operation on `p` decides its membership: present after an addition, absent after a removal -/
theorem mem_after_add (ps : PeerList) (p : Nat) : p ∈ applyOp ps (.add p) :=
  (mem_snoc_unless ps p p).mpr (.inr rfl)

theorem not_mem_after_rm (ps : PeerList) (p : Nat) : p ∉ applyOp ps (.rm p) := by
  simp [applyOp, withRemovedPeer]

/-- non-vacuity: a concrete four-validator set built by operations; thresholds 3 and 2 -/
example : len ([Op.add 1, .add 2, .add 3, .rm 2, .add 4, .add 2].foldl applyOp []) = 4
    ∧ superMajority [1, 3, 4, 2] = 3 ∧ trustCount [1, 3, 4, 2] = 2 := by decide

end Babble.Props.C19
