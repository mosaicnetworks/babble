import Babble.Proofs.HGOrder
import Babble.Proofs.Median
import Babble.Proofs.HGFame
import Babble.Proofs.DagViews
import Babble.Proofs.HGWitnessUnique
/-! # C03 — consensus output is a function of the event DAG only
    Proved here: the deterministic ingredients that make the output independent of process-local
    state, and — for a static validator set, on the declarative model `Babble.Dag` that the
    correspondence run compares with the Go code on every static view — order independence itself:
    round, witness flag, strongly-see, the votes cast and the fame decisions triggered by an event
    are functions of the event (its hash-linked ancestry) alone (`values_depend_on_the_event_only`),
    the fame of a witness does not depend on who decides it, and the famous witnesses of a
    decided round are the same on every node (C01), so a node with a downward-closed subset computes
    a prefix.  NOT proved: the same statement for the operational model `Babble.HG` (stored
    coordinates and tables; decided by the correspondence run: same DAG, many topological orders,
    sub-DAGs, stores, cache sizes, batchings, Go vs both Lean models), Lamport timestamps and
    round-received as Lean theorems.  Proved on the operational model, for any validator-set
    behaviour (second half of the file): assigned values and fame decisions are final, rounds never
    decrease along the parent edges and along ancestry, a witness is the first event of its creator
    in its round, one witness per creator and round.  See DESIGN.md §3 C03. -/
namespace Babble.Props.C03
open Babble Babble.HG

/-- **values_depend_on_the_event_only**: two evaluations (`Dag.build`, the executable the Go code is
    compared with) over any two event lists, in any orders, give the same record — round, witness
    flag, coordinates, votes, decisions — to the same event tree -/
theorem values_depend_on_the_event_only (ps : List Nat) (nodes₁ nodes₂ : List Dag.Node)
    (p₁ p₂ : Nat × List Dag.Rec) (h₁ : p₁ ∈ Dag.build ps nodes₁) (h₂ : p₂ ∈ Dag.build ps nodes₂)
    (he : Dag.headE p₁.2 = Dag.headE p₂.2) : p₁.2 = p₂.2 := by
  rw [(Dag.build_ok ps nodes₁ p₁ h₁).1, (Dag.build_ok ps nodes₂ p₂ h₂).1, he]

/-- fame does not depend on the decider, hence not on the order in which deciders were received -/
theorem fame_independent_of_decider {ps : List Nat} {U : Dag.E → Prop} (H : Dag.Hist ps U) {x y y' : Dag.E}
    (hx : U x) (hy : U y) (hy' : U y') {b b' : Bool}
    (h : Dag.decision ps y x = some b) (h' : Dag.decision ps y' x = some b') : b = b' :=
  Dag.dag_fame_agreement H hx hy hy' h h'

/-- **subdag_prefix (fame)**: a node that holds a downward-closed subset `A` of what another view `B`
    holds, and has declared round `r` decided, already knows the final famous witnesses of `r`: no
    event `B` has in addition changes that set -/
theorem famous_set_of_decided_round_is_final {ps : List Nat} {U A B : Dag.E → Prop} (H : Dag.Hist ps U)
    (hA : Dag.View A U) (hB : Dag.View B U) (hAB : ∀ e, A e → B e) {r : Int}
    (dA : Dag.RoundDecided ps A r) (x : Dag.E) (hBx : B x) (hw : Dag.wit ps x = true) (hr : Dag.round ps x = r) :
    Dag.DecidedIn ps B x true ↔ Dag.FamousIn ps A r x :=
  Dag.famous_set_final H hA hB hAB dA x hBx hw hr

/-- frames are ordered by a key that is independent of the insertion order: whatever order the
    round's events were received in, the committed order is the same -/
theorem frame_order_independent_of_reception (l₁ l₂ : List Ev) (hp : l₁.Perm l₂)
    (hkey : ∀ a b, a ∈ l₁ → b ∈ l₁ → a.lamport.getD 0 = b.lamport.getD 0 → a.key = b.key → a = b) :
    l₁.mergeSort frameLe = l₂.mergeSort frameLe := HG.frame_order_canonical l₁ l₂ hp hkey

/-- the block timestamp does not depend on the order in which the famous witnesses are enumerated
    (Go iterates a map): the median sorts first -/
theorem median_order_independent (l₁ l₂ : List Int) (hp : l₁.Perm l₂) :
    Median.median64 l₁ = Median.median64 l₂ := by
  have hs := Median.sorted_congr hp
  unfold Median.median64
  simp only [hs]

/-- the consensus passes other than `ProcessDecidedRounds` are pure table computations: they never
    touch delivered blocks, frames or validator sets, so batching them differently cannot reorder or
    alter what was already delivered -/
theorem passes_do_not_touch_output (s : St) :
    s.divideRounds.out = s.out ∧ s.decideFame.out = s.out ∧ s.decideRoundReceived.out = s.out :=
  ⟨divideRounds_out s, decideFame_out s, decideRoundReceived_out s⟩

example : Median.median64 [3, 1, 2] = Median.median64 [1, 2, 3] :=
  median_order_independent _ _ (by decide)

/-- **assigned values are final** (operational model, any validator-set behaviour): whatever round,
    witness flag, Lamport timestamp or round received an event has at some moment of an insertion
    history (fresh events with distinct ids, into a node started from genesis), it has after every
    continuation of that history — later events and later consensus passes never revise it. -/
theorem assigned_values_are_final (g : List Nat) (es1 es2 : List Babble.HG.Ev)
    (hnd : ((es1 ++ es2).map (·.id)).Nodup) (hrr : ∀ e ∈ es1 ++ es2, e.rr = none) (x : String) (e : Babble.HG.Ev)
    (hx : (Babble.HG.runAll (Babble.HG.St.init g) es1).get x = some e) :
    ∃ e', (Babble.HG.runAll (Babble.HG.St.init g) (es1 ++ es2)).get x = some e' ∧
      (e.round.isSome → e'.round = e.round ∧ e'.wit = e.wit) ∧ (e.lamport.isSome → e'.lamport = e.lamport) ∧
      (e.rr.isSome → e'.rr = e.rr) :=
  Babble.HG.values_final g es1 es2 hnd hrr x e hx

/-- **fame decisions are final** (operational model, any validator-set behaviour, any insertion
    attempts): a witness recorded as famous or as not famous in the table of its round stays recorded
    that way after every further insertion and consensus pass. -/
theorem fame_decisions_are_final (s : Babble.HG.St) (es : List Babble.HG.Ev) (r : Int) (ri : Babble.HG.RoundInfo)
    (x : String) (f : Babble.HG.Fame) (hg : s.getRound r = some ri) (hd : Babble.HG.Decd ri x f) :
    ∃ ri', (Babble.HG.runAll s es).getRound r = some ri' ∧ Babble.HG.Decd ri' x f :=
  Babble.HG.runAll_fkeeps s es r ri x f hg hd

/-- **rounds never decrease along the parent edges** (operational model, any validator-set
    behaviour): in every state a node started from genesis reaches through insertion attempts of
    fresh events, every stored event has a round, the parents it names are stored, and their rounds
    are at most its own — the shape the declarative model's `round` has by construction -/
theorem rounds_never_decrease_along_parents (g : List Nat) (es : List HG.Ev) (hnd : (es.map (·.id)).Nodup)
    (hfresh : ∀ e ∈ es, e.id ≠ "" ∧ e.round = none ∧ e.rr = none) (x : String) (e : HG.Ev)
    (hx : (HG.runAll (HG.St.init g) es).get x = some e) :
    ∃ r, e.round = some r ∧
      (e.sp ≠ "" → ∃ p rp, (HG.runAll (HG.St.init g) es).get e.sp = some p ∧ p.round = some rp ∧ rp ≤ r) ∧
      (e.op ≠ "" → ∃ p rp, (HG.runAll (HG.St.init g) es).get e.op = some p ∧ p.round = some rp ∧ rp ≤ r) :=
  HG.round_parents g es hnd hfresh x e hx

/-- **a witness is the first event of its creator in its round** (operational model): a stored event
    whose witness flag is `true` has a round strictly above the round of its self-parent — with
    `rounds_never_decrease_along_parents` along the creator's chain (C07), no creator has two witnesses
    in one round; again the shape `Babble.Dag` has by construction -/
theorem witness_round_above_self_parent (g : List Nat) (es : List HG.Ev) (hnd : (es.map (·.id)).Nodup)
    (hfresh : ∀ e ∈ es, e.id ≠ "" ∧ e.round = none ∧ e.rr = none) (x : String) (e p : HG.Ev) (r rp : Int)
    (hx : (HG.runAll (HG.St.init g) es).get x = some e) (hw : e.wit = some true) (hr : e.round = some r)
    (hsp : e.sp ≠ "") (hp : (HG.runAll (HG.St.init g) es).get e.sp = some p) (hrp : p.round = some rp) : rp < r :=
  HG.witness_above_self_parent g es hnd hfresh x e p r rp hx hw hr hsp hp hrp

/-- **rounds never decrease along ancestry** (operational model): if `a` is an ancestor-or-self of `b`
    in the stored history (the reachability relation of C07's `ancestor_eq_reachability`), the round
    of `a` is at most the round of `b` -/
theorem rounds_never_decrease_along_ancestry (g : List Nat) (es : List HG.Ev) (hnd : (es.map (·.id)).Nodup)
    (hfresh : ∀ e ∈ es, e.id ≠ "" ∧ e.round = none ∧ e.rr = none) (a b : String)
    (h : HG.Anc (HG.runAll (HG.St.init g) es).events a b) (ea eb : HG.Ev) (ra rb : Int)
    (ha : (HG.runAll (HG.St.init g) es).get a = some ea) (hb : (HG.runAll (HG.St.init g) es).get b = some eb)
    (hra : ea.round = some ra) (hrb : eb.round = some rb) : ra ≤ rb :=
  HG.anc_round_le g es hnd hfresh
    (HG.runAll_admInv_of_nodup g es (fun x hx => (hfresh x hx).1) hnd)
    a b h ea eb ra rb ha hb hra hrb

/-- **one witness per creator and round** (operational model): two stored witnesses of the same
    creator with the same round are the same event.  On the
    declarative model this is `wit_unique`; the vote counting of `DecideFame` relies on it. -/
theorem one_witness_per_creator_and_round (g : List Nat) (es : List HG.Ev) (hnd : (es.map (·.id)).Nodup)
    (hfresh : ∀ e ∈ es, e.id ≠ "" ∧ e.round = none ∧ e.rr = none) (y z : HG.Ev) (r : Int)
    (hy : y ∈ (HG.runAll (HG.St.init g) es).events) (hz : z ∈ (HG.runAll (HG.St.init g) es).events)
    (hc : y.creator = z.creator) (hwy : y.wit = some true) (hwz : z.wit = some true)
    (hry : y.round = some r) (hrz : z.round = some r) : y = z :=
  HG.witness_unique g es hnd hfresh y z r hy hz hc hwy hwz hry hrz

/-- non-vacuity of the four theorems above: two validators; `d` is the witness of round 1 on
    validator 1's chain (its self-parent `b` is a witness of round 0), `c` is not a witness -/
example :
    let es : List HG.Ev := [
      { id := "a", creator := 0, index := 0, sp := "", op := "", ts := 1, key := 1, mid := true },
      { id := "b", creator := 1, index := 0, sp := "", op := "", ts := 2, key := 2, mid := true },
      { id := "c", creator := 0, index := 1, sp := "a", op := "b", ts := 3, key := 3, mid := true },
      { id := "d", creator := 1, index := 1, sp := "b", op := "c", ts := 4, key := 4, mid := true }]
    ((HG.runAll (HG.St.init [0, 1]) es).events.map (fun e => (e.id, e.round, e.wit))) =
      [("d", some 1, some true), ("c", some 0, some false), ("b", some 0, some true), ("a", some 0, some true)] := by
  -- evaluated once, by the kernel (plain `decide` evaluates in the elaborator first)
  decide +kernel

end Babble.Props.C03
