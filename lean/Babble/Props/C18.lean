import Babble.Proofs.Median
import Babble.Proofs.Quorum
/-! # C18 — block timestamps are Byzantine-tolerant medians
    `median64` is the model of `common.Median` with Go's int64 semantics (wrap-around of the sum,
    truncating division).  The block timestamp is `median64` of the famous witnesses' claimed
    timestamps (tied to the code by the C18 correspondence run and by `Model/Hashgraph`). -/
namespace Babble.Props.C18
open Babble Babble.Median

/-- Main statement.  If strictly fewer than half of the values lie outside `[lo, hi]` (the range of
    the honest famous witnesses' timestamps) and that range avoids int64 overflow of a sum of two
    of its members, the Go median lies inside the range — whatever the other values are (any int64,
    including `MinInt64`/`MaxInt64`). -/
theorem median_between (l : List Int) (lo hi : Int)
    (hlo : -(two63 / 2) ≤ lo) (hhi : hi < two63 / 2)
    (h : 2 * l.countP (outside lo hi) < l.length) :
    lo ≤ median64 l ∧ median64 l ≤ hi := by
  rw [← (sorted_perm l).countP_eq, ← sorted_length l] at h
  obtain ⟨h0, hmid, hlow⟩ := central_inside (sorted_pairwise l) lo hi h
  unfold median64
  rw [if_neg h0]
  split
  next he =>
    rw [wrap64_add_id _ _ lo hi hlo hhi (hlow he) hmid]
    exact tdiv2_between _ _ lo hi (hlow he) hmid
  next => exact hmid

/-- fewer than n/3 lying validators are a strict minority among any ≥ supermajority set of famous
    witnesses (a block exists only if its round has at least a supermajority of famous witnesses) -/
theorem byzantine_minority_among_famous (n b famous : Nat) (hb : 3 * b < n)
    (hf : Gen.superMajority n ≤ famous) : 2 * b < famous := by
  have := (Gen.superMajority_le_iff n famous).mp hf
  omega

/-- The property as stated: `ts` are the famous witnesses' claimed timestamps, each with a flag that
    marks the ones created by misreporting validators; the honest ones lie in `[lo,hi]`.  If the liars are fewer
    than a third of the round's `n` validators and there are at least a supermajority of famous
    witnesses, the block timestamp lies in the honest range. -/
theorem block_timestamp_bounded (n : Nat) (ts : List (Int × Bool)) (lo hi : Int)
    (hlo : -(two63 / 2) ≤ lo) (hhi : hi < two63 / 2)
    (hhonest : ∀ p ∈ ts, p.2 = false → lo ≤ p.1 ∧ p.1 ≤ hi)
    (hbyz : 3 * ts.countP (·.2) < n)
    (hfam : Gen.superMajority n ≤ ts.length) :
    lo ≤ median64 (ts.map (·.1)) ∧ median64 (ts.map (·.1)) ≤ hi := by
  apply median_between _ lo hi hlo hhi
  have h1 : (ts.map (·.1)).countP (outside lo hi) ≤ ts.countP (·.2) := by
    rw [List.countP_map]
    apply List.countP_mono_left
    intro p hp hout
    cases hb : p.2 with
    | true => rfl
    | false =>
      have := hhonest p hp hb
      have : p.1 < lo ∨ hi < p.1 := outside_iff.mp hout
      omega
  rw [List.length_map]
  exact Nat.lt_of_le_of_lt (Nat.mul_le_mul_left 2 h1) (byzantine_minority_among_famous n _ _ hbyz hfam)

/-- non-vacuity: three honest clocks in [1000,1002] and one liar at MaxInt64 satisfy the hypotheses -/
example : 1000 ≤ median64 [1000, 9223372036854775807, 1002, 1001]
    ∧ median64 [1000, 9223372036854775807, 1002, 1001] ≤ 1002 :=
  median_between _ 1000 1002 (by decide) (by decide) (by decide)

example : 1000 ≤ median64 ([(1000, false), (-9223372036854775808, true), (1002, false), (1001, false)].map (·.1))
    ∧ median64 ([(1000, false), (-9223372036854775808, true), (1002, false), (1001, false)].map (·.1)) ≤ 1002 :=
  block_timestamp_bounded 4 _ 1000 1002 (by decide) (by decide) (by decide) (by decide) (by decide)

end Babble.Props.C18
