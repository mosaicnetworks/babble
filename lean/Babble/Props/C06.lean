import Babble.Proofs.Vote
import Babble.Proofs.HGFrame
/-! # C06 — liveness under fair gossip (PARTIAL)
    What a theorem can carry: the deterministic ingredients.
    * elections terminate quickly once votes are unanimous: a unanimous vote is decided within two
      rounds, a coin round being always followed by a normal one (period regenerated from the source)
      (`unanimous_decides`, `coin_then_normal`, `unanimous_decides_within_two`);
    * a node keeps gossiping exactly while it has something unfinished (`busy_iff`, shape of
      `core.busy` checked by the extractor), and the counter behind it follows the events
      (`busy_counter_follows_the_events`);
    * the consensus passes are total functions of the state (no failure path in the model), and
      `ProcessDecidedRounds` consumes every decided round at the head of the queue (`process_makes_progress`).

    What it cannot: a bound on the number of exchanges for the real voting rule.  A split election
    ends through coin rounds (the middle byte of a hash); there is no deterministic bound to prove.
    That clause is decided by exploration only — adversarial prefix + fair all-pairs suffix on real
    cores, "all live validators idle and everything accepted committed within 120 cycles" — and is
    reported as exploration evidence next to these lemmas (DESIGN.md §3 C06). -/
namespace Babble.Props.C06
open Babble Babble.Vote

variable {W : Type} [DecidableEq W]

/-- if every witness of level d votes b, a witness of the next level decides b provided that level is
    a normal round -/
theorem unanimous_decides (V : VoteSys W) (d : Nat) (b : Bool) (y : W) (hy : V.lvl y = d + 1)
    (hu : V.allVote d b) (hn : normalLvl (d+1) = true) : V.decidesAtG d y = some b := by
  rw [V.decidesAtG_eq]
  exact V.decidesAt_eq_some_iff.mpr ⟨hn, V.cnt_of_unanimous d b hu y hy⟩

/-- a coin round is immediately followed by a normal round (coin period regenerated: 4) -/
theorem coin_then_normal (d : Nat) (h : normalLvl d = false) : normalLvl (d+1) = true := by
  unfold normalLvl Gen.cmpCoinTest Gen.coinRoundFreq Cmp.evalN at *
  simp only [decide_eq_false_iff_not, decide_eq_true_eq] at *
  omega

/-- a unanimous vote is decided within two rounds: at the next round if it is normal, else at the
    one after (unanimity survives the coin round) -/
theorem unanimous_decides_within_two (V : VoteSys W) (d : Nat) (b : Bool) (hu : V.allVote d b)
    (y1 y2 : W) (h1 : V.lvl y1 = d + 1) (h2 : V.lvl y2 = d + 2) :
    V.decidesAtG d y1 = some b ∨ V.decidesAtG (d+1) y2 = some b := by
  cases hn : normalLvl (d+1) with
  | true => exact .inl (unanimous_decides V d b y1 h1 hu hn)
  | false => exact .inr (unanimous_decides V (d+1) b y2 h2 (V.unanimity_step d b hu) (coin_then_normal (d+1) hn))

/-- `core.busy` (shape checked by the extractor) -/
def busy (pendingLoaded txPool itxPool sigPool : Nat) (lcr : Option Int) (target : Int) : Bool :=
  Gen.busyShape && (decide (pendingLoaded > 0) || decide (txPool > 0) || decide (itxPool > 0) || decide (sigPool > 0) ||
    (match lcr with | some l => decide (l < target) | none => false))

/-- **busy_iff**: a node is idle iff it holds no loaded undetermined event, its three pools are empty
    and it has reached its target round -/
theorem busy_iff (pl tx itx sg : Nat) (lcr : Option Int) (target : Int) :
    busy pl tx itx sg lcr target = false ↔
      pl = 0 ∧ tx = 0 ∧ itx = 0 ∧ sg = 0 ∧ (∀ l, lcr = some l → target ≤ l) := by
  simp only [busy, Gen.busyShape, Bool.true_and, Bool.or_eq_false_iff, decide_eq_false_iff_not, Nat.not_lt,
    Nat.le_zero_eq, and_assoc]
  cases lcr with
  | none => simp only [reduceCtorEq, false_imp_iff, implies_true]
  | some l => simp only [decide_eq_false_iff_not, Int.not_lt, Option.some.injEq, forall_eq']

/-- `ProcessDecidedRounds` makes progress: a decided round at the head of the pending queue whose
    RoundInfo exists is consumed -/
theorem process_makes_progress (s : HG.St) (r : Int) (rest : List (Int × Bool)) (ri : HG.RoundInfo)
    (hp : s.pending = (r, true) :: rest) (hr : s.getRound r = some ri) :
    ∃ s', s.processOne = some s' ∧ s'.pending = rest := by
  unfold HG.St.processOne
  rw [hp]
  simp only [Bool.not_true, Bool.false_eq_true, if_false, hr]
  split
  · exact ⟨_, rfl, rfl⟩
  · exact ⟨_, rfl, rfl⟩

/-- **the counter behind `busy()` follows the events**: inserting an event adds one exactly when it
    is loaded; assigning rounds, deciding fame and assigning a round received leave it unchanged; it
    comes down only when a decided round is processed, by the number of loaded events of that frame.
    So an event that is loaded keeps its node busy until its round has been processed — also while a
    later round is decided before an earlier one. (The Go counter is compared with this model after
    every insertion.) -/
theorem busy_counter_follows_the_events (s : Babble.HG.St) (e : Babble.HG.Ev) :
    (s.insert e).pendingLoaded = s.pendingLoaded + (if e.isLoaded then 1 else 0) ∧
    s.divideRounds.pendingLoaded = s.pendingLoaded ∧
    s.decideFame.pendingLoaded = s.pendingLoaded ∧
    s.decideRoundReceived.pendingLoaded = s.pendingLoaded ∧
    (∀ s', s.processOne = some s' → ∃ r ri, s.getRound r = some ri ∧ s.pending.head?.map (·.1) = some r ∧
      s'.pendingLoaded = s.pendingLoaded - (((s.getFrame r ri).2.filter Babble.HG.Ev.isLoaded).length : Int)) :=
  ⟨Babble.HG.insert_pl s e, (Babble.HG.pendingLoaded_blind.passes s).2.1, (Babble.HG.pendingLoaded_blind.passes s).2.2.1,
   (Babble.HG.pendingLoaded_blind.passes s).2.2.2, fun s' h => Babble.HG.processOne_pl s s' h⟩

end Babble.Props.C06
