import Babble.Model.Codec
import Babble.Proofs.Admission
import Babble.Proofs.ByteCodec
/-! # C15 — encoding identity (PARTIAL)
    Proved: the compact wire form is lossless between nodes whose histories satisfy the admission
    invariant (C07): the receiver resolves the (creator, index) pairs to exactly the parents' hashes,
    and every other body field travels verbatim, so the reconstructed body — hence hash and signature
    validity — is the sender's.  The hash assumption (same id ⇒ same creator and index) connects the
    two stores.

    Regenerated from `event.go` on every run and checked here: the database form writes every field
    of its wrapper structure and reads every one of them back into the place it was taken from
    (`db_form_symmetric`, `db_form_complete`), and the wire body carries every field of `WireBody`,
    each taken from the corresponding field of the event body (`wire_form_complete`,
    `wire_form_sources`) — a field dropped, swapped or taken from elsewhere in `MarshalDB`,
    `UnmarshalDB` or `ToWire` breaks these obligations.

    Byte level (`Babble.ByteCodec`, compared with the Go functions value for value): the two string
    encodings every key, hash and signature travels in are lossless — `DecodeFromString ∘
    EncodeToString` and `DecodeSignature ∘ EncodeSignature` are the identity for *every* byte string
    and *every* pair of non-negative integers (`hex_roundtrip`, `signature_roundtrip`), and the
    canonical spellings are injective (`hex_spelling_injective`, `signature_spelling_injective`):
    equal strings ⇔ equal values, which is what lets hashes and signatures be compared as strings.

    Not modelled: `encoding/json`, the `ugorji` codec, base64, SHA-256.  The JSON transport of
    blocks, frames and events, the database form, and the independence of the frame hash from map
    order are decided by the correspondence run on the real encoders (DESIGN.md §3 C15). -/
namespace Babble.Props.C15
open Babble Babble.HG

/-- `UnmarshalDB` puts every field of the wrapper back where `MarshalDB` took it from -/
theorem db_form_symmetric : Gen.eventDBWritten = Gen.eventDBRead := rfl

/-- … and both handle every field of the wrapper structure -/
theorem db_form_complete : Gen.eventDBWritten.map (·.1) = Gen.eventDBStruct := rfl

/-- `ToWire` fills every field of `WireBody` -/
theorem wire_form_complete : Gen.wireBodyWritten.map (·.1) = Gen.wireBodyStruct := rfl

/-- … each from the corresponding field of the event (parents travel as the creator id and index
    coordinates set by `SetWireInfo`; block signatures in their wire form) -/
theorem wire_form_sources :
    Gen.wireBodyWritten =
      [("BlockSignatures", "e.WireBlockSignatures()"), ("CreatorID", "e.Body.creatorID"), ("Index", "e.Body.Index"),
       ("InternalTransactions", "e.Body.InternalTransactions"), ("OtherParentCreatorID", "e.Body.otherParentCreatorID"),
       ("OtherParentIndex", "e.Body.otherParentIndex"), ("SelfParentIndex", "e.Body.selfParentIndex"),
       ("Timestamp", "e.Body.Timestamp"), ("Transactions", "e.Body.Transactions")] := rfl

/-- a parent reference of an event stored on the sender names a stored event; the receiver resolves
    that event's (creator, index) to the hash the sender meant, provided it holds an event with that
    hash (and hashes determine creator and index) -/
theorem resolve_parent (s s' : St) (hI : AdmInv s.events) (hI' : AdmInv s'.events)
    (hhash : ∀ p ∈ s.events, ∀ q ∈ s'.events, q.id = p.id → q.creator = p.creator ∧ q.index = p.index)
    {e : Ev} (he : e ∈ s.events) {p : String} (hne : p ≠ "") (hp : p = e.sp ∨ p = e.op)
    (hq : ∃ q ∈ s'.events, q.id = p) :
    ∃ l, s.get p = some l ∧ 0 ≤ l.index ∧ (s'.byIndex l.creator l.index).map (·.id) = some p := by
  obtain ⟨l, hl⟩ := Option.isSome_iff_exists.mp (parent_present hI he hne hp)
  obtain ⟨q, hq, hqid⟩ := hq
  have hlm := getL_mem hl
  obtain ⟨hc, hi⟩ := hhash l hlm q hq (hqid.trans (getL_id hl).symm)
  refine ⟨l, (s.get_eq hI p).trans hl, index_nonneg hI hlm, ?_⟩
  rw [← hc, ← hi, byIndex_of_mem s' hI' q hq]
  exact congrArg some hqid

/-- **wire_roundtrip**: an event stored on the sender (history satisfying C07) converted to its wire
    form is read back, on any receiver that holds its parents, with the same parent hashes; all other
    fields are copied verbatim (`toWire` definition), so the body, the hash and the validity of the
    signature are unchanged -/
theorem wire_roundtrip (s s' : St) (hI : AdmInv s.events) (hI' : AdmInv s'.events) (e : Ev) (he : e ∈ s.events)
    (hhash : ∀ p ∈ s.events, ∀ q ∈ s'.events, q.id = p.id → q.creator = p.creator ∧ q.index = p.index)
    (hsp : e.sp ≠ "" → ∃ q ∈ s'.events, q.id = e.sp) (hop : e.op ≠ "" → ∃ q ∈ s'.events, q.id = e.op) :
    ∃ w, s.toWire e = some w ∧ s'.readWireParents w = some (e.sp, e.op) ∧
      w.creator = e.creator ∧ w.index = e.index ∧ w.txs = e.txs ∧ w.itx = e.itx ∧ w.ts = e.ts ∧ w.key = e.key := by
  -- self parent: written as its index, read back under the event's own creator
  obtain ⟨si, h1, h1'⟩ : ∃ si, (if e.sp == "" then some (-1) else (s.get e.sp).map (·.index)) = some si ∧
      (if si ≥ 0 then (s'.byIndex e.creator si).map (·.id) else some "") = some e.sp := by
    by_cases h : e.sp = ""
    · exact ⟨-1, by simp [h], by simp [h]⟩
    · obtain ⟨l, hl, h0, hr⟩ := resolve_parent s s' hI hI' hhash he h (Or.inl rfl) (hsp h)
      have hlc : l.creator = e.creator := by
        rcases sp_spec hI he with ⟨h', _⟩ | ⟨l', hl', hc, _⟩
        · exact absurd h' h
        · rw [s.get_eq hI, hl'] at hl; cases hl; exact hc
      exact ⟨l.index, by simp [h, hl], by rw [if_pos h0, ← hlc, hr]⟩
  -- other parent: written as (creator, index)
  obtain ⟨oc, oi, h2, h2'⟩ : ∃ oc oi, (if e.op == "" then some ((0 : Nat), (-1 : Int)) else (s.get e.op).map (fun o => (o.creator, o.index))) = some (oc, oi) ∧
      (if oi ≥ 0 then (s'.byIndex oc oi).map (·.id) else some "") = some e.op := by
    by_cases h : e.op = ""
    · exact ⟨0, -1, by simp [h], by simp [h]⟩
    · obtain ⟨o, ho, h0, hr⟩ := resolve_parent s s' hI hI' hhash he h (Or.inr rfl) (hop h)
      exact ⟨o.creator, o.index, by simp [h, ho], by rw [if_pos h0, hr]⟩
  refine ⟨{ creator := e.creator, index := e.index, spIndex := si, opCreator := oc, opIndex := oi,
            ts := e.ts, key := e.key, mid := e.mid, txs := e.txs, itx := e.itx, sigok := e.sigok }, ?_, ?_, rfl, rfl, rfl, rfl, rfl, rfl⟩
  · unfold St.toWire
    simp only [h1, h2]
  · unfold St.readWireParents
    simp only [h1', h2']

/-- **hex_roundtrip**: `DecodeFromString (EncodeToString b) = b` for every byte string -/
theorem hex_roundtrip (bs : List Nat) (h : ∀ b ∈ bs, b < 256) :
    ByteCodec.decodeFromString (ByteCodec.encodeToString bs) = some bs := ByteCodec.decode_encode bs h

/-- equal canonical spellings ⇔ equal bytes (hashes and keys may be compared as strings) -/
theorem hex_spelling_injective (a b : List Nat) (ha : ∀ x ∈ a, x < 256) (hb : ∀ x ∈ b, x < 256) :
    ByteCodec.encodeToString a = ByteCodec.encodeToString b ↔ a = b :=
  ⟨ByteCodec.encode_injective a b ha hb, fun h => by rw [h]⟩

/-- **signature_roundtrip**: `DecodeSignature (EncodeSignature r s) = (r, s)` for all r, s ≥ 0 -/
theorem signature_roundtrip (r s : Nat) :
    ByteCodec.decodeSignature (ByteCodec.encodeSignature r s) = some (Int.ofNat r, Int.ofNat s) :=
  ByteCodec.decode_encode_signature r s

/-- equal canonical signature strings ⇔ equal (r, s) -/
theorem signature_spelling_injective (r s r' s' : Nat) :
    ByteCodec.encodeSignature r s = ByteCodec.encodeSignature r' s' ↔ r = r' ∧ s = s' :=
  ⟨ByteCodec.encodeSignature_injective r s r' s', fun h => by rw [h.1, h.2]⟩

/-- non-vacuity: the bytes 00 ff 0a and the pair (35, 36) -/
example : ByteCodec.encodeToString [0, 255, 10] = [48, 88, 48, 48, 70, 70, 48, 65] := by decide
example : ByteCodec.decodeFromString [48, 88, 48, 48, 70, 70, 48, 65] = some [0, 255, 10] := by decide
example : ByteCodec.encodeSignature 35 36 = [122, 124, 49, 48] := by
  simp [ByteCodec.encodeSignature, ByteCodec.text36, ByteCodec.digitsLE, ByteCodec.digit36]

end Babble.Props.C15
