import Babble.Proofs.AttrOnly
/-! # C07 — event admission
    `AdmInv` (Proofs/Ancestry.lean) is the property's invariant: every stored event has a fresh id,
    its self-parent is its creator's latest event and its index is that index + 1 (or no self-parent
    and index 0), its other-parent, if it names one, is present, and its coordinates are the ones
    `initEventCoordinates` computes.  The signature bit and the membership of the creator are checked
    by `admission` itself (`admitted_is_checked`).

    Hash assumption (trusted base): an event's id is the hash of its body, so it is non-empty and two
    events with the same id have the same creator and index.  It appears as the hypotheses `hid` /
    `hhash` and is checked on every trace by the harness.

    Scope: nodes started from genesis.  After a fast-sync reset the creator chains start at the
    frame's roots (base index ≠ 0); that case is covered by the correspondence run only. -/
namespace Babble.Props.C07
open Babble Babble.HG

/-- a refused event leaves the whole state (DAG, known events, every consensus table) unchanged -/
theorem rejected_is_noop (s : St) (e : Ev) (r : Rej) (h : (s.insertAndRun e).2 = some r) :
    (s.insertAndRun e).1 = s := by
  cases hadm : s.admission e with
  | some r => rw [insertAndRun_rejected hadm]
  | none => rw [insertAndRun_admitted hadm] at h; cases h

/-- what an admitted event was checked for: valid signature bit (event and internal transactions,
    from the real `Verify`), creator in the repertoire -/
theorem admitted_is_checked (s : St) (e : Ev) (h : s.admission e = none) :
    e.sigok = true ∧ s.repertoire.contains e.creator = true :=
  have h := (admission_eq_none_iff s e).mp h
  ⟨h.1, h.2.1⟩

/-- **Admission invariant, every reachable state**: for any sequence of insertion attempts — valid
    events mixed with arbitrary other events (wrong / duplicate / negative / skipped indexes,
    unknown parents, foreign creators, bad signatures, replays) — on a node started from genesis. -/
theorem admission_invariant (genesis : List Nat) (es : List Ev)
    (hid : ∀ a ∈ es, a.id ≠ "")
    (hhash : ∀ a ∈ es, ∀ b ∈ es, a.id = b.id → a.creator = b.creator ∧ a.index = b.index) :
    AdmInv (runAll (St.init genesis) es).events := runAll_admInv genesis es hid hhash

/-- consequently: no two stored events of one creator at the same height -/
theorem no_two_at_same_height {es : List Ev} (hI : AdmInv es) {a b : Ev} (ha : a ∈ es) (hb : b ∈ es)
    (hc : a.creator = b.creator) (hi : a.index = b.index) : a = b := unique_index hI ha hb hc hi

/-- … and per-creator indexes are gap free: an event either is a first event with index 0 or its
    self-parent is stored, by the same creator, with the preceding index -/
theorem indexes_gap_free {es : List Ev} (hI : AdmInv es) {z : Ev} (hz : z ∈ es) :
    (z.sp = "" ∧ z.index = 0) ∨ (∃ l, getL es z.sp = some l ∧ l.creator = z.creator ∧ z.index = l.index + 1) :=
  sp_spec hI hz

/-- … and the index arithmetic the consensus code uses for ancestry is exact: `ancestor(x, y)`
    (comparison of `lastAncestors[creator y].Index` with `y.Index`, operator regenerated from the
    source) holds iff `y` is reachable from `x` through parent links -/
theorem ancestor_eq_reachability (s : St) (hI : AdmInv s.events) {x y : Ev} (hx : x ∈ s.events) (hy : y ∈ s.events) :
    s.ancestor x.id y.id = true ↔ Anc s.events y.id x.id := by
  unfold St.ancestor
  by_cases hxy : x.id = y.id
  · -- Go's shortcut for `x == y`
    rw [if_pos (beq_iff_eq.mpr hxy), hxy]
    exact iff_of_true rfl (Anc.refl (Option.isSome_of_eq_some (getL_of_mem hI hy)))
  · rw [if_neg (mt beq_iff_eq.mp hxy), s.get_eq hI, s.get_eq hI, getL_of_mem hI hx, getL_of_mem hI hy, anc_iff_la hI hx hy]
    simp only [laGet, Gen.cmpAncestor, Cmp.eval]
    cases posGet x.la y.creator <;> simp

/-- non-vacuity: a two-event history satisfying the invariant -/
example : AdmInv
    [{ id := "b", creator := 1, index := 0, sp := "", op := "a", ts := 0, key := 2, mid := true,
       la := [some ⟨0, "a"⟩, some ⟨0, "b"⟩] },
     { id := "a", creator := 0, index := 0, sp := "", op := "", ts := 0, key := 1, mid := true,
       la := [some ⟨0, "a"⟩] }] :=
  ⟨⟨trivial, by decide, rfl, ⟨rfl, rfl⟩, .inl rfl, rfl⟩, by decide, rfl, ⟨rfl, rfl⟩, .inr rfl, rfl⟩

end Babble.Props.C07
