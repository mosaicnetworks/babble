import Babble.Model.Decode
import Babble.Proofs.ByteCodec
/-! # C08 — no network input can crash a node (the validation layer is total)
    `Babble.Decode` models, with Go's partial operations explicit, what every hostile string goes
    through first: hex decoding, signature decoding, public-key decoding, signature verification of
    internal transactions, events and blocks, and the limit arithmetic of the sync handler.  The
    theorems say no input whatsoever — any byte strings, any combination of input bits — reaches a
    `panic` outcome.  The model is tied to the code by the C08 correspondence run (outcome class
    ok | err | panic on the hostile value grammar must agree).

    PARTIAL: `encoding/json`, the transport framing, goroutines and locks are not modelled; they are
    covered by the harness (hostile requests through `Node.processRPC` in every state, hostile sync
    and fast-forward responses through `core`, a valid exchange after every hostile input). -/
namespace Babble.Props.C08
open Babble.Decode

theorem decode_total (s : Bytes) : decodeFromString s ≠ .panic := by
  -- the outcome is the shadow of a value model that has no panic; that the length guard keeps
  -- `sliceFrom2` from its panic branch is used in the proof of `decode_class`
  rw [Babble.ByteCodec.decode_class]; cases Babble.ByteCodec.decodeFromString s <;> nofun

theorem signature_total (s : Bytes) : decodeSignature s ≠ .panic := by
  rw [Babble.ByteCodec.decodeSignature_class]; split <;> nofun

theorem keys_verify_total (k : Option Unit) (v : Bool) : keysVerify k v ≠ .panic := by
  cases k <;> nofun

theorem pubkey_total (s : Bytes) : pubKeyBytes s ≠ .panic := by
  unfold pubKeyBytes
  split
  · nofun
  · nofun
  · next h => exact absurd h (decode_total s)

/-- `InternalTransaction.Verify` never panics, whatever key string, signature string and curve /
    validity bits -/
theorem itx_verify_total (i : SigIn) : verifyItx i ≠ .panic := by
  unfold verifyItx
  split
  · next h => exact absurd h (pubkey_total _)
  · nofun
  · split
    · next h => exact absurd h (signature_total _)
    · nofun
    · exact keys_verify_total _ _

theorem verifyEvent_go_total (l : List SigIn) : verifyEvent.go l ≠ .panic := by
  induction l with
  | nil => nofun
  | cons i r ih =>
    unfold verifyEvent.go
    split
    · next h => exact absurd h (itx_verify_total i)
    · nofun
    · nofun
    · exact ih

/-- `Event.Verify` (event signature and every internal-transaction signature) never panics -/
theorem verify_total (itxs : List SigIn) (cb : Nat) (oc : Bool) (sig : Bytes) (v : Bool) :
    verifyEvent itxs cb oc sig v ≠ .panic := by
  unfold verifyEvent
  split
  · next h => exact absurd h (verifyEvent_go_total _)
  · nofun
  · split
    · next h => exact absurd h (signature_total _)
    · nofun
    · exact keys_verify_total _ _

theorem clamp_spec (req conf : Int) :
    0 ≤ clampLimit req conf ∧ (0 ≤ req → 0 ≤ conf → clampLimit req conf ≤ req ∧ clampLimit req conf ≤ conf) := by
  unfold clampLimit
  simp only []
  omega

/-- the sync handler returns `min(len(diff), limit)` events, the limit clamped at zero -/
theorem syncSlice_eq (diffLen : Nat) (req conf : Int) :
    syncSlice diffLen req conf = .ok (min diffLen (clampLimit req conf).toNat) := by
  have h0 := (clamp_spec req conf).1
  unfold syncSlice
  by_cases h : clampLimit req conf < diffLen
  · rw [if_pos h, if_pos h0, Nat.min_eq_right (Int.toNat_le.mpr (Int.le_of_lt h))]
  · rw [if_neg h, Nat.min_eq_left ((Int.le_toNat h0).mpr (Int.not_lt.mp h))]

/-- the sync handler's slice bound is always within range: any requested limit (negative, MinInt64,
    MaxInt64), any configured limit, any diff length -/
theorem sync_limit_total (diffLen : Nat) (req conf : Int) : syncSlice diffLen req conf ≠ .panic := by
  rw [syncSlice_eq]; nofun

/-- … and never returns more events than exist or than either limit allows -/
theorem sync_limit_bound (diffLen : Nat) (req conf : Int) (n : Nat) (h : syncSlice diffLen req conf = .ok n) :
    n ≤ diffLen ∧ (0 ≤ req → 0 ≤ conf → (n : Int) ≤ req ∧ (n : Int) ≤ conf) := by
  rw [syncSlice_eq] at h
  cases h
  obtain ⟨h0, hc⟩ := clamp_spec req conf
  have hL := (Int.le_toNat h0).mp (Nat.min_le_right diffLen _)
  exact ⟨Nat.min_le_left .., fun hr hcf => ⟨Int.le_trans hL (hc hr hcf).1, Int.le_trans hL (hc hr hcf).2⟩⟩

/-- non-vacuity / regression witnesses: the inputs that crashed the unrepaired code are errors now -/
example : decodeFromString [] = .err := by decide
example : decodeFromString [48] = .err := by decide
example : decodeSignature [33, 124, 33] = .err := by decide        -- "!|!"
example : decodeSignature [110, 111] = .err := by decide           -- "no"
example : verifyItx { keyHex := [], onCurve := false, sig := [49, 124, 50], valid := false } = .ok false := by decide
example : syncSlice 5 (-1) 1000 = .ok 0 := by decide

/-! `Babble.ByteCodec` computes what the two decoders *return* and is compared with the Go functions
    value for value; the outcome classes used above are exactly its successes and failures. -/

/-- `DecodeFromString`: `ok n` iff the value model decodes to `n` bytes, `err` iff it fails -/
theorem hex_outcome_is_value_model (s : Bytes) :
    decodeFromString s = match Babble.ByteCodec.decodeFromString s with
      | some bs => .ok bs.length
      | none => .err := Babble.ByteCodec.decode_class s

/-- `DecodeSignature`: `ok` iff the value model produces a pair of integers -/
theorem signature_outcome_is_value_model (s : Bytes) :
    decodeSignature s = (if (Babble.ByteCodec.decodeSignature s).isSome then .ok () else .err) :=
  Babble.ByteCodec.decodeSignature_class s

end Babble.Props.C08
